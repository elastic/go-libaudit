/-
The text form of a rule, read back by flags.Parse: a line of value flags (`-a`, `-S`, `-F`, `-C`, `-w`, `-p`, `-k` with
their values) reads as the list of those occurrences (`reads_flagTokens`), so flags.Parse applies them in order and
validates. The two lines ToCommandLine prints are read that way (`parseArgs_line`, `parseArgs_watchTokens`).
-/
import LA.Proofs.RuleBuild
import LA.Proofs.FlagsLine

namespace LA.Rule
open LA LA.Flags

theorem setAdd_print {fl ac : Nat} {l a : Bytes} (hl : getList fl = some l) (ha : getAction ac = some a) :
    setAdd none (a ++ [44] ++ l) = some (l, a) := by
  have cert : listNames.all (fun p => actionNames.all (fun q => setAdd none (q.2 ++ [44] ++ p.2) == some (p.2, q.2))) = true := by
    decide +kernel
  simpa using List.all_eq_true.mp (List.all_eq_true.mp cert _ (getList_names hl)) _ (getAction_names ha)

def tokA : Bytes := [45, 97]   -- "-a"
def tokS : Bytes := [45, 83]   -- "-S"

/-- the tokens of a list of value-flag occurrences `-n value` -/
def flagTokens (occ : List (Nat × Bytes)) : List Bytes := occ.flatMap (fun p => [[45, p.1], p.2])

def occItems (occ : List (Nat × Bytes)) : List Item := occ.map fun p => .val p.1 p.2

theorem applyItems_occ_cons (p : Nat × Bytes) (ps : List (Nat × Bytes)) (fs : FS) :
    applyItems (occItems (p :: ps)) fs = (setFlag fs p.1 p.2).bind (applyItems (occItems ps)) := rfl

theorem classify_valueFlag : ∀ n ∈ valueFlags, classify [45, n] = .flag n false [] ∧ (n == 68) = false := by decide

theorem reads_flagTokens (occ : List (Nat × Bytes)) (h : ∀ p ∈ occ, p.1 ∈ valueFlags) : Reads (flagTokens occ) (occItems occ) := by
  induction occ with
  | nil => exact .nil
  | cons p ps ih =>
    obtain ⟨hp, hps⟩ := List.forall_mem_cons.mp h
    obtain ⟨hc, h68⟩ := classify_valueFlag p.1 hp
    exact .sep [45, p.1] [] p.2 p.1 _ _ hc h68 (List.contains_iff_mem.mpr hp) (ih hps)

theorem parseArgs_flagTokens (occ : List (Nat × Bytes)) (h : ∀ p ∈ occ, p.1 ∈ valueFlags) :
    parseArgs (flagTokens occ) = (applyItems (occItems occ) {}).bind finish := by
  unfold parseArgs
  rw [parseLoop_reads (reads_flagTokens occ h) _ (Nat.lt_succ_self _)]
  cases applyItems (occItems occ) {} with
  | none => rfl
  | some fs => rfl

/-- a printed argument with its flag letter (70 = -F, 67 = -C): letter, left side, operator, right side -/
abbrev GPart := Nat × Bytes × Bytes × Bytes

def gFilter (p : GPart) : FilterSpec := ⟨if p.1 == 67 then 1 else 2, p.2.1, p.2.2.1, p.2.2.2⟩

/-- a printed argument is split by its own expression (-F or -C) into its parts. -/
def GMatch (p : GPart) : Prop :=
  (p.1 = 70 ∧ matchFilter (p.2.1 ++ p.2.2.1 ++ p.2.2.2) = some p.2) ∨
  (p.1 = 67 ∧ matchComparison (p.2.1 ++ p.2.2.1 ++ p.2.2.2) = some p.2)

def gTokens (ps : List GPart) : List Bytes := ps.flatMap (fun p => [[45, p.1], p.2.1 ++ p.2.2.1 ++ p.2.2.2])

def gPrint (p : GPart) : Bytes := (if p.1 == 67 then ofString "-C " else ofString "-F ") ++ p.2.1 ++ p.2.2.1 ++ p.2.2.2

/-- a printed -F / -C argument as a flag occurrence -/
def gOcc (p : GPart) : Nat × Bytes := (p.1, p.2.1 ++ p.2.2.1 ++ p.2.2.2)

theorem gTokens_eq (ps : List GPart) : gTokens ps = flagTokens (ps.map gOcc) := by
  simp only [gTokens, flagTokens, List.flatMap_map, gOcc]

theorem applyItems_gparts (ps : List GPart) (hm : ∀ p ∈ ps, GMatch p) (fs : FS) :
    applyItems (occItems (ps.map gOcc)) fs =
      some { fs with filters := fs.filters ++ ps.map gFilter, visited := fs.visited ++ ps.map (·.1) } := by
  induction ps generalizing fs with
  | nil => simp [occItems, applyItems]
  | cons t ts ih =>
    have hs : setFlag fs t.1 (t.2.1 ++ t.2.2.1 ++ t.2.2.2) =
        some { fs with visited := fs.visited ++ [t.1], filters := fs.filters ++ [gFilter t] } := by
      unfold setFlag
      -- either letter: the tests on the letter are evaluated, the expression splits the value
      rcases hm t List.mem_cons_self with ⟨h, hmt⟩ | ⟨h, hmt⟩ <;>
        simp only [h, Nat.reduceBEq, Bool.false_eq_true, if_false, if_true, hmt, Option.map_some, gFilter]
    rw [List.map_cons, applyItems_occ_cons, gOcc, hs, Option.bind_some, ih (fun x hx => hm x (List.mem_cons_of_mem _ hx))]
    simp [List.append_assoc]

/-- 97, 83, 70, 67: the letters of -a, -S, -F, -C. -/
theorem finish_append {fs : FS} {l a : Bytes} (ha : fs.append = some (l, a)) (hp : fs.prepend = none)
    (h97 : 97 ∈ fs.visited) (hv : ∀ x ∈ fs.visited, x ∈ [97, 83, 70, 67]) :
    finish fs = some (.syscall 3 l a fs.filters fs.syscalls fs.keys) := by
  have c1 : fs.visited.contains 68 = false := by
    simp only [List.contains_eq_mem, decide_eq_false_iff_not]
    exact fun h => absurd (hv 68 h) (by decide)
  have c2 : fs.visited.any (fun n => n == 119 || n == 112) = false := by
    rw [List.any_eq_false]
    exact fun x hx => (by decide : ∀ x ∈ [97, 83, 70, 67], ¬ (x == 119 || x == 112) = true) x (hv x hx)
  have c3 : fs.visited.any (fun n => n == 97 || n == 65 || n == 67 || n == 70 || n == 83) = true :=
    List.any_eq_true.mpr ⟨97, h97, by decide⟩
  unfold finish
  simp only [c1, c2, c3, ha, hp]
  rfl

theorem parseArgs_line {l a : Bytes} (hadd : setAdd none (a ++ [44] ++ l) = some (l, a)) (sv : Option Bytes)
    (ps : List GPart) (hm : ∀ p ∈ ps, GMatch p) :
    parseArgs (tokA :: (a ++ [44] ++ l) :: ((match sv with | some v => [tokS, v] | none => []) ++ gTokens ps)) =
      some (.syscall 3 l a (ps.map gFilter) (match sv with | some v => splitList v | none => []) []) := by
  have hletter : ∀ p ∈ ps, p.1 ∈ [70, 67] := by
    intro p hp
    rcases hm p hp with ⟨h, _⟩ | ⟨h, _⟩ <;> rw [h] <;> decide
  -- whatever stood before them, the printed arguments leave a flag set that validates as the appended syscall rule
  have hfin : ∀ fs : FS, fs.append = some (l, a) → fs.prepend = none → 97 ∈ fs.visited → (∀ x ∈ fs.visited, x ∈ [97, 83]) →
      (applyItems (occItems (ps.map gOcc)) fs).bind finish = some (.syscall 3 l a (fs.filters ++ ps.map gFilter) fs.syscalls fs.keys) := by
    intro fs h1 h2 h3 h4
    rw [applyItems_gparts ps hm, Option.bind_some]
    refine finish_append h1 h2 (List.mem_append_left _ h3) (fun x hx => ?_)
    rcases List.mem_append.mp hx with hx | hx
    · exact (by decide : ∀ x ∈ [97, 83], x ∈ [97, 83, 70, 67]) x (h4 x hx)
    · obtain ⟨p, hp, rfl⟩ := List.mem_map.mp hx
      exact (by decide : ∀ x ∈ [70, 67], x ∈ [97, 83, 70, 67]) _ (hletter p hp)
  have hvg : ∀ p ∈ ps.map gOcc, p.1 ∈ valueFlags := by
    intro p hp
    obtain ⟨q, hq, rfl⟩ := List.mem_map.mp hp
    exact (by decide : ∀ x ∈ [70, 67], x ∈ valueFlags) _ (hletter q hq)
  have hA : (97 : Nat) ∈ valueFlags ∧ (83 : Nat) ∈ valueFlags := by decide
  have hsetA : setFlag {} 97 (a ++ [44] ++ l) = some { append := some (l, a), visited := [97] } := by
    simp only [setFlag, beq_self_eq_true, if_true, hadd, Option.map_some, List.nil_append]
  rw [gTokens_eq]
  cases sv with
  | none =>
    show parseArgs (flagTokens ((97, a ++ [44] ++ l) :: ps.map gOcc)) = _
    rw [parseArgs_flagTokens _ (List.forall_mem_cons.mpr ⟨hA.1, hvg⟩), applyItems_occ_cons, hsetA, Option.bind_some]
    exact hfin _ rfl rfl List.mem_cons_self (fun x hx => List.mem_append_left [83] hx)
  | some v =>
    have hsetS : setFlag { append := some (l, a), visited := [97] } 83 v =
        some { append := some (l, a), visited := [97, 83], syscalls := splitList v } := rfl
    show parseArgs (flagTokens ((97, a ++ [44] ++ l) :: (83, v) :: ps.map gOcc)) = _
    rw [parseArgs_flagTokens _ (List.forall_mem_cons.mpr ⟨hA.1, List.forall_mem_cons.mpr ⟨hA.2, hvg⟩⟩), applyItems_occ_cons, hsetA,
      Option.bind_some, applyItems_occ_cons, hsetS, Option.bind_some]
    exact hfin _ rfl rfl List.mem_cons_self (fun x hx => hx)

def tokW : Bytes := [45, 119]  -- "-w"
def tokP : Bytes := [45, 112]  -- "-p"
def tokK : Bytes := [45, 107]  -- "-k"

def watchTokens (path perm key : Bytes) : List Bytes :=
  [tokW, path, tokP, perm] ++ (if key.isEmpty then [] else [tokK, key])

theorem parseArgs_watchTokens (path perm key : Bytes) (codes : List Nat) (hc : setPerms [] perm = some codes)
    (hk : splitList key = [key]) :
    parseArgs (watchTokens path perm key) = some (.watch path codes (if key.isEmpty then [] else [key])) := by
  have hw : setFlag {} 119 path = some { path := path, pathSet := true, visited := [119] } := rfl
  have hp : setFlag { path := path, pathSet := true, visited := [119] } 112 perm =
      some { path := path, pathSet := true, perms := codes, visited := [119, 112] } := by
    simp only [setFlag, hc, Option.map_some]; rfl
  have hkk : setFlag { path := path, pathSet := true, perms := codes, visited := [119, 112] } 107 key =
      some { path := path, pathSet := true, perms := codes, keys := [key], visited := [119, 112, 107] } := by
    simp only [setFlag, hk]; rfl
  have e : watchTokens path perm key = flagTokens ((119, path) :: (112, perm) :: if key.isEmpty then [] else [(107, key)]) := by
    unfold watchTokens
    cases key.isEmpty <;> rfl
  rw [e, parseArgs_flagTokens _ (by cases key.isEmpty <;> simp [valueFlags])]
  simp only [applyItems_occ_cons, hw, hp, Option.bind_some]
  -- without `-k` the flag set is complete; with it one more step
  cases key.isEmpty
  · simp only [Bool.false_eq_true, if_false, applyItems_occ_cons, hkk, Option.bind_some]
    rfl
  · rfl

end LA.Rule
