/- Packages rule and rule/flags: see LA.Proofs.StateObligations.Root. -/
import LA.Proofs.StateFacts

namespace LA.StateFacts

theorem ofPkg_rule : ofPkg "rule" = ruleTableBuilders := Eq.refl _
theorem ofPkg_ruleflags : ofPkg "rule/flags" = [] := by decide +kernel
theorem envOf_rule : envOf "rule" = ruleEnv := Eq.refl _
theorem envOf_ruleflags : envOf "rule/flags" = [] := by decide +kernel

end LA.StateFacts
