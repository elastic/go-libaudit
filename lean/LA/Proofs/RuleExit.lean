/-
Names against numbers in the text form of a rule. Errno names and record type names begin with an upper-case letter
(certificates over the regenerated tables), so strconv reports a syntax error on them and the name tables take over
(`getExitCode_errno`); a printed number is no such word (`dec_beq_word`).
-/
import LA.Proofs.Num
import LA.Model.Rule
import LA.Proofs.Tables

namespace LA.Rule
open LA

theorem head_of_any {α : Type} {P : α → Bool} {s : List α} (h : s.head?.any P = true) : ∃ c tl, s = c :: tl ∧ P c = true := by
  obtain ⟨c, hc, hp⟩ := (Option.any_eq_true _ _).mp h
  obtain ⟨tl, rfl⟩ := List.head?_eq_some_iff.mp hc
  exact ⟨c, tl, rfl, hp⟩

theorem dec_beq_word (n c : Nat) (tl : Bytes) (hc : c < 48 ∨ 57 < c) : (dec n == c :: tl) = false := by
  obtain ⟨d, tl', hd, hdig⟩ := dec_cons_digit n
  have : d ≠ c := by omega
  simp [hd, this]

theorem dec_ne_all (n : Nat) : (dec n == ofString "all") = false := dec_beq_word n 97 _ (by omega)

theorem errno_names_upper : ∀ p ∈ LA.Gen.Errno.errnoToName, ∃ c tl, p.2 = c :: tl ∧ 65 ≤ c ∧ c ≤ 90 := by
  have cert : LA.Gen.Errno.errnoToName.all (fun p => p.2.head?.any (fun c => decide (65 ≤ c ∧ c ≤ 90))) = true := by
    decide +kernel
  intro p hp
  obtain ⟨c, tl, h, hc⟩ := head_of_any (List.all_eq_true.mp cert p hp)
  exact ⟨c, tl, h, by simpa using hc⟩

theorem typeName_head (t : Nat) : ∃ d tl, MsgType.typeName t = d :: tl ∧ 65 ≤ d ∧ d ≤ 90 := by
  have cert : LA.Gen.MsgTypes.typeToName.all (fun p => p.2.head?.any (fun d => decide (65 ≤ d ∧ d ≤ 90))) = true := by
    decide +kernel
  rcases MsgType.typeName_cases t with h | ⟨n, h, hm⟩
  · exact ⟨85, _, by rw [h]; rfl, by omega, by omega⟩  -- the 'U' of `UNKNOWN[n]`
  · obtain ⟨d, tl, hn, hd⟩ := head_of_any (List.all_eq_true.mp cert (t, n) hm)
    exact ⟨d, tl, h.trans hn, by simpa using hd⟩

theorem getExitCode_decInt (code : Int) (h : -2147483648 ≤ code ∧ code < 2147483648) : getExitCode (decInt code) = some code := by
  unfold getExitCode decInt
  by_cases hneg : code < 0
  · rw [if_pos hneg, parseIntGo_dec_neg code.natAbs (by omega)]
    simp only [Option.some.injEq]
    omega
  · rw [if_neg hneg, parseIntGo_dec_pos code.toNat (by omega)]
    simp only [Option.some.injEq]
    omega

theorem getExitCode_errno {n : Nat} {name : Bytes} (h : Tables.errnoName n = some name) :
    getExitCode (45 :: name) = some (-(n : Int)) := by
  obtain ⟨c, tl, hname, hc⟩ := errno_names_upper (n, name) (mem_of_lookupN h)
  simp only at hname
  unfold getExitCode
  rw [hname, parseIntGo_minus_name c tl hc]
  simp only
  rw [← hname, Tables.errno_num_name_num _ _ h]
  simp only [Option.some.injEq]
  omega

end LA.Rule
