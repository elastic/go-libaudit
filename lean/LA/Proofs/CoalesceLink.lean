/-
Link between the heap layer and the pure model: the event `coalesceH` returns, read through
the heap it leaves, is the event `coalesce` computes from the messages' views.  `coalesceH` takes
the plain fields from `coalesce`; what the event holds by reference it determines in definitions of
its own on (id, view) pairs (`kept`, `primaryOf`, `tagRefOf`, `pathRefsOf`, `normChoice`), which restate
what `assemble` and `applyNorm` compute on the way.  This module exists to rejoin each of them to the
pure model (`kept_snd`, `primaryView_snd`, `tags_link`, `paths_link`, `coalesce_refFields`).
-/
import LA.Proofs.CoalesceMain
import LA.Proofs.CoalesceHeap

namespace LA.Coalesce

def catPure (T : Tables) := ecsValue (fun i => (normAt T i).ecsCategory)
def typPure (T : Tables) := ecsValue (fun i => (normAt T i).ecsType)

theorem setEcs_values (T : Tables) (ni : Nat) (s : Option Nat) (e : Event) :
    (setEcs T ni s e).ecsCategory = catPure T (some (ni, extraNorm ni s)) ∧
    (setEcs T ni s e).ecsType = typPure T (some (ni, extraNorm ni s)) := by
  unfold setEcs catPure typPure ecsValue
  dsimp only
  cases extraNorm ni s <;> simp

theorem coalesce_refFields {T : Tables} {views : List View} {e : Event} (h : coalesce T views = .ok e) :
    e.tags = tagsOfViews views ∧ e.ecsCategory = catPure T (normChoice T views) ∧
    e.ecsType = typPure T (normChoice T views) := by
  obtain ⟨e0, e1, h0, h1, rfl⟩ := coalesce_ok_split h
  obtain ⟨_, _, _, f⟩ := assemble_fields h0
  refine ⟨(applyNorm_nframe T e0 e1 h1).tags.trans f.tags, ?_⟩
  show e1.ecsCategory = _ ∧ e1.ecsType = _
  unfold normChoice
  rw [h0]
  dsimp only
  rcases applyNorm_ok_cases h1 with ⟨hsel, rfl⟩ | ⟨ni, e2, hsel, h2, rfl⟩ <;> rw [hsel]
  · have hh := (setHowDefaults_frame e0).trans (warn_frame _ .noNorm)
    exact ⟨hh.ecsCategory.trans f.ecsCategory, hh.ecsType.trans f.ecsType⟩
  · have hv := setEcs_values T ni (syscallNormOf T (setHowDefaults e0)) (setHowDefaults e0)
    have hl := applyTail_frame (normAt T ni) e2
    -- as a variable: comparing a field of `{ setEcs … with … }` with the field of `setEcs …` makes the unifier unfold `setEcs`
    generalize setEcs T ni _ _ = e' at h2 hv
    obtain ⟨_, _, _, _, _, rfl⟩ := setObject_writes h2
    exact ⟨hl.ecsCategory.trans hv.1, hl.ecsType.trans hv.2⟩

theorem filterEOE_take (l : List View) : filterEOE l = l.take (filterEOE l).length := by
  unfold filterEOE
  cases l.getLast? with
  | none => simp
  | some m =>
    dsimp only
    split
    · rw [List.dropLast_eq_take]; simp
    · simp

theorem kept_mem {ids : List Nat} {f : Nat → View} {p : Nat × View} (hp : p ∈ kept ids (ids.map f)) :
    p.2 = f p.1 := by
  have hz : ids.zip (ids.map f) = ids.map (fun i => (i, f i)) := by
    simpa using List.zip_map' (f := id) (g := f) (l := ids)
  obtain ⟨i, _, rfl⟩ := List.mem_map.mp (hz ▸ List.mem_of_mem_take hp)
  rfl

theorem kept_snd (ids : List Nat) (f : Nat → View) :
    (kept ids (ids.map f)).map Prod.snd = filterEOE (ids.map f) := by
  unfold kept
  rw [List.map_take, List.map_snd_zip (by simp), ← filterEOE_take]

theorem primaryView_snd (pv : List (Nat × View)) :
    primaryView (pv.map Prod.snd) = (primaryOf pv).map Prod.snd :=
  match pv with
  | [] => rfl
  | [_] => rfl
  | _ :: _ :: _ => List.find?_map

theorem primaryOf_mem {pv : List (Nat × View)} {p : Nat × View} (h : primaryOf pv = some p) : p ∈ pv :=
  match pv with
  | [] => nomatch h
  | [_] => by cases h; exact List.mem_singleton_self _
  | _ :: _ :: _ => by unfold primaryOf at h; exact List.mem_of_find?_eq_some h

theorem pathRefs_read (g : Nat → KV) (l : List (Nat × View)) (hg : ∀ p ∈ l, g p.1 = p.2.data.getD []) :
    ((l.filter (fun p => decide (p.2.typ = PATH) && p.2.data.isSome)).map Prod.fst).map g =
    ((l.map Prod.snd).filter (fun m => decide (m.typ = PATH))).flatMap (fun m => m.data.toList) := by
  induction l with
  | nil => rfl
  | cons p r ih =>
    obtain ⟨hp, hr⟩ := List.forall_mem_cons.mp hg
    have ih := ih hr
    simp only [List.filter_cons, List.map_cons]
    by_cases ht : p.2.typ = PATH
    · cases hd : p.2.data with
      | none => simpa [ht, hd] using ih
      | some d => simpa [ht, hd, hp] using ih
    · simpa [ht] using ih

theorem ecsValues_pure {T : Tables} {h : Heap} (ht : TablesOK T h) (nc : Option (Nat × Option Nat)) :
    catValue h nc = catPure T nc ∧ typValue h nc = typPure T nc :=
  ⟨ecsValue_congr (fun i => (ht i).1) nc, ecsValue_congr (fun i => (ht i).2) nc⟩

theorem paths_link (T : Tables) (h H : Heap) (hobs : ∀ i, obsAt H i = obsAt h i) (ids : List Nat) (e : Event)
    (hco : coalesce T (ids.map (viewAt h)) = .ok e) :
    (pathRefsOf (kept ids (ids.map (viewAt h)))).map (fun i => ((obsAt H i).data).getD []) = e.paths := by
  have hg : ∀ p ∈ kept ids (ids.map (viewAt h)), ((obsAt H p.1).data).getD [] = p.2.data.getD [] :=
    fun p hp => by rw [hobs, kept_mem hp, obsAt_view]
  rw [coalesce_paths T _ e hco, ← kept_snd, List.length_map]
  generalize kept ids (ids.map (viewAt h)) = pv at hg
  match pv with
  | [] => rfl
  | [_] => rfl
  | a :: b :: r => rw [if_pos (by simp)]; exact pathRefs_read _ _ hg

theorem tags_link (T : Tables) (h H : Heap) (hobs : ∀ i, obsAt H i = obsAt h i) (ids : List Nat) (e : Event)
    (hco : coalesce T (ids.map (viewAt h)) = .ok e) :
    tagsRead H (tagRefOf (kept ids (ids.map (viewAt h)))) = e.tags := by
  rw [(coalesce_refFields hco).1, tagsOfViews, ← kept_snd, primaryView_snd, tagRefOf]
  cases hp : primaryOf (kept ids (ids.map (viewAt h))) with
  | none => rfl
  | some p =>
    simp only [Option.map_some]
    split
    · rw [tagsRead, hobs, kept_mem (primaryOf_mem hp), obsAt_view]
    · rfl

def withEcs (cat typ : List Bytes) : Outcome Event → Outcome Event
  | .ok e => .ok { e with ecsCategory := cat, ecsType := typ }
  | .err x => .err x
  | .panic => .panic

/-- Category/Type are what the table slices of the heap *before the call* read: no agreement
between heap and tables (`TablesOK`) is needed, so this also compares two runs (`C15_repeatable`). -/
theorem coalesceH_simulation (T : Tables) (h : Heap) (hw : HeapWF h) (ids : List Nat) :
    derefO (coalesceH T h ids).1 (coalesceH T h ids).2 =
      withEcs (catValue h (normChoice T (ids.map (viewAt h)))) (typValue h (normChoice T (ids.map (viewAt h))))
        (coalesce T (ids.map (viewAt h))) := by
  have hfill := fill_hframe (touched (kept ids (ids.map (viewAt h)))) h
  obtain ⟨hs, _, _, hcat, htyp⟩ := ecsSlices_spec _ (hw.mono hfill) (normChoice T (ids.map (viewAt h)))
  have hfin := hfill.trans hs
  rw [coalesceH_eq]
  dsimp only
  cases hco : coalesce T (ids.map (viewAt h)) with
  | err x => rfl
  | panic => rfl
  | ok e =>
    simp only [derefO, withEcs]
    congr 1
    unfold deref
    dsimp only
    rw [paths_link T h _ (fun i => hfin.obs_eq i) ids e hco, tags_link T h _ (fun i => hfin.obs_eq i) ids e hco,
      hcat, htyp, (ecsValues_frame hfill hw _).1, (ecsValues_frame hfill hw _).2]

end LA.Coalesce
