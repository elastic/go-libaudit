/-
The life cycle of a lone record as a function of its record type: the model's answer in closed form
(`specLife`) and a checker for the run-length table that harness/cmd/extract reads off the running
library for all 65536 record types (Gen/ReasmFacts).
-/
import LA.Model.Reasm

namespace LA.Reasm

/-- the life cycle of a lone record of type `t` in the model, observed exactly as
harness/cmd/extract/reasmfacts.go observes the library (maxInFlight 4, one-hour timeout, sequence 7,
then an EOE with the same sequence): 0 delivered by its own push, 1 delivered alone by the EOE's
push, 2 neither push delivers anything, 3 anything else. -/
def modelLife (t : Nat) : Nat :=
  let first : Msg := ⟨0, 7, t⟩
  let r1 := step (init 4 3600000000000) (.push first 0 0)
  if r1.2 = [Out.group [first]] then 0
  else if r1.2 ≠ [] then 3
  else
    let r2 := step r1.1 (.push ⟨1, 7, 1320⟩ 0 0)
    if r2.2 = [] then 2 else if r2.2 = [Out.group [first]] then 1 else 3

def specLife (t : Nat) : Nat := if t = EOE then 2 else if completes t then 0 else 1

theorem modelLife_eq (t : Nat) : modelLife t = specLife t := by
  unfold modelLife specLife
  by_cases he : t = EOE
  · subst he; decide
  · have he : ¬ t = 1320 := he
    cases hc : completes t <;>
      simp [step, put, init, hasKey, insertEnd, cleanUp, evictable, hc, evictStep, account, advance, callback, EOE,
        markComplete, he]

/-- the life cycle that the run-length table `tbl` gives record type `t`: that of the first row `(lo, hi, v)`, which
stands for "the record types `lo … hi` have life cycle `v`", with `lo ≤ t ≤ hi`. -/
def lookupLife (tbl : List (Nat × Nat × Nat)) (t : Nat) : Option Nat :=
  (tbl.find? (fun r => decide (r.1 ≤ t) && decide (t ≤ r.2.1))).map (·.2.2)

/-- the record types at which `specLife` can change value -/
def lifeBreaks : List Nat := [1300, 1320, 1321, 1327, 1328, 2100]

theorem specLife_closed_form (x : Nat) :
    specLife x = if x = 1320 then 2 else if x = 1327 ∨ x ≤ 1299 ∨ x ≥ 2100 then 0 else 1 := by
  by_cases h : x ≤ 1299 <;> simp [specLife, completes, EOE, PROCTITLE, LAST_DAEMON, ANOM_LOGIN_FAILURES, h]

/-- `specLife` looks at its argument only through the comparisons `b ≤ x` for the six breaks `b`. -/
theorem specLife_breaks (x : Nat) :
    specLife x = if 1320 ≤ x ∧ ¬ 1321 ≤ x then 2
      else if (1327 ≤ x ∧ ¬ 1328 ≤ x) ∨ ¬ 1300 ≤ x ∨ 2100 ≤ x then 0 else 1 := by
  rw [specLife_closed_form]
  exact ite_congr (propext (by omega)) (fun _ => rfl) fun _ => ite_congr (propext (by omega)) (fun _ => rfl) fun _ => rfl

theorem specLife_const (lo hi t : Nat) (h : lifeBreaks.all (fun b => !(decide (lo < b) && decide (b ≤ hi))) = true)
    (h1 : lo ≤ t) (h2 : t ≤ hi) : specLife t = specLife lo := by
  -- no break lies in (lo, hi], so `t` and `lo` compare alike with every break
  have key : ∀ b ∈ lifeBreaks, (b ≤ t) = (b ≤ lo) := by
    intro b hb
    have := List.all_eq_true.mp h b hb
    simp only [Bool.not_eq_true', Bool.and_eq_false_iff, decide_eq_false_iff_not] at this
    apply propext; omega
  simp only [lifeBreaks, List.mem_cons, List.mem_nil_iff, or_false, forall_eq_or_imp, forall_eq] at key
  simp only [specLife_breaks, key]

/-- the runs are contiguous from `start` to 65535, none spans a break, and each carries the value
`specLife` has at its left end. -/
def runsOk : Nat → List (Nat × Nat × Nat) → Bool
  | start, [] => start == 65536
  | start, r :: rest =>
    r.1 == start && decide (r.1 ≤ r.2.1) && lifeBreaks.all (fun b => !(decide (r.1 < b) && decide (b ≤ r.2.1))) &&
      specLife r.1 == r.2.2 && runsOk (r.2.1 + 1) rest

theorem runsOk_sound (tbl : List (Nat × Nat × Nat)) (start : Nat) (h : runsOk start tbl = true) (t : Nat)
    (h1 : start ≤ t) (h2 : t < 65536) : lookupLife tbl t = some (specLife t) := by
  induction tbl generalizing start with
  | nil => simp [runsOk] at h; omega
  | cons r rest ih =>
    simp only [runsOk, Bool.and_eq_true, beq_iff_eq, decide_eq_true_eq] at h
    obtain ⟨⟨⟨⟨hs, hle⟩, hb⟩, hv⟩, hrest⟩ := h
    by_cases ht : t ≤ r.2.1
    · have : lookupLife (r :: rest) t = some r.2.2 := by
        simp [lookupLife, hs, h1, ht]
      rw [this, ← hv, specLife_const r.1 r.2.1 t hb (by omega) ht]
    · have : lookupLife (r :: rest) t = lookupLife rest t := by
        simp [lookupLife, ht]
      rw [this]
      exact ih (r.2.1 + 1) hrest (by omega)

end LA.Reasm
