/-
C04 — Parsed record header equals the header that was written.
-/
import LA.Proofs.Auparse
import LA.Proofs.Tables
import LA.Proofs.StateObligations.Auparse

namespace LA.Auparse
open LA LA.MsgType

def pad3 (ms : Nat) : Bytes := [48 + ms / 100, 48 + ms / 10 % 10, 48 + ms % 10]

/-- "audit(S.mmm:N)" -/
def writtenHeader (sec ms seq : Nat) : Bytes :=
  ofString "audit" ++ 40 :: (dec sec ++ 46 :: (pad3 ms ++ 58 :: (dec seq ++ [41])))

theorem parseDigits_pad3 (ms : Nat) (h : ms < 1000) : parseDigits (pad3 ms) 0 = some ms := by
  have d : ms / 10 / 10 = ms / 100 := Nat.div_div_eq_div_mul ..
  rw [pad3, parseDigits_cons_digit (Nat.div_lt_of_lt_mul h), parseDigits_cons_digit (Nat.mod_lt _ (by decide)),
    parseDigits_cons_digit (Nat.mod_lt _ (by decide)), parseDigits, Nat.zero_mul, Nat.zero_add, ← d, Nat.div_add_mod',
    Nat.div_add_mod']

theorem pad3_digits (ms : Nat) (h : ms < 1000) : ∀ b ∈ pad3 ms, isDigit b = true := by
  simp only [pad3, List.forall_mem_cons]
  exact ⟨isDigit_add (Nat.div_lt_of_lt_mul h), isDigit_add (Nat.mod_lt _ (by decide)), isDigit_add (Nat.mod_lt _ (by decide)),
    nofun⟩

theorem headerNums_written (sec ms seq : Nat) (hs : sec < 2 ^ 63) (hm : ms < 1000) (hq : seq < 2 ^ 32) :
    headerNums (dec sec) (pad3 ms) (dec seq) = some ((sec : Int), ((ms * 1000000 : Nat) : Int), seq) := by
  unfold headerNums
  rw [parseInt_digits (dec_ne_nil sec) (dec_digits sec) (parseDigits_dec sec) hs,
    parseInt_digits (s := pad3 ms) (List.cons_ne_nil _ _) (pad3_digits ms hm) (parseDigits_pad3 ms hm) (by omega),
    parseUint_dec seq 4294967295 (by omega)]
  simp only
  have hw : wrap64 ((ms : Int) * 1000000) = (ms : Int) * 1000000 := by
    unfold wrap64; omega
  rw [hw]
  have : ¬ ((ms : Int) * 1000000 < 0 ∨ (ms : Int) * 1000000 ≥ 1000000000) := by omega
  simp only [timeUnix, this, if_false]
  simp

/-- The written header parses back to exactly what was written, whatever follows it:
seconds, milliseconds (as nanoseconds), sequence, and the index of the closing parenthesis. -/
theorem C04_header_roundtrip (sec ms seq : Nat) (rest : Bytes) (hs : sec < 2 ^ 63) (hm : ms < 1000) (hq : seq < 2 ^ 32) :
    parseAuditHeader (writtenHeader sec ms seq ++ rest) =
      Res.ok ((sec : Int), ((ms * 1000000 : Nat) : Int), seq, (((writtenHeader sec ms seq).length - 1 : Nat) : Int)) := by
  have e : writtenHeader sec ms seq ++ rest =
      ofString "audit" ++ 40 :: (dec sec ++ 46 :: (pad3 ms ++ 58 :: (dec seq ++ 41 :: rest))) := by
    simp [writtenHeader]
  rw [e, parseAuditHeader_decomp _ _ _ _ _ (by decide)
    (not_mem_of_digits (dec_digits sec) (by decide))
    (not_mem_of_digits (pad3_digits ms hm) (by decide))
    (not_mem_of_digits (dec_digits seq) (by decide)),
    headerNums_written sec ms seq hs hm hq]
  -- what is left is the position of ')': the length of the written header less one
  simp only [Res.ok.injEq, Prod.mk.injEq, true_and]
  simp [writtenHeader, pad3]
  omega

/-- ParseLogLine and Parse agree: a line 'type=NAME msg=M' parses as Parse(T, M) whenever NAME
names T (record type names contain no 'm', so the first 'msg=' is the intended one). -/
theorem C04_parse_agrees (name m : Bytes) (t : Nat) (hn : (109 : Nat) ∉ name) (ht : getType name = some t) :
    parseLogLine (ofString "type=" ++ name ++ ofString " msg=" ++ m) = parse t m := by
  have e : ofString " msg=" = 32 :: msgToken := by decide +kernel
  rw [e]
  exact parseLogLine_split (by decide +kernel) (by simp [hn]; decide +kernel) ht

theorem trim_keeps_written_header (sec ms seq : Nat) (tail : Bytes) :
    ∃ rest', trimSpace (writtenHeader sec ms seq ++ tail) = writtenHeader sec ms seq ++ rest' := by
  -- the header runs from `a` to `)`
  obtain ⟨mid, e⟩ : ∃ mid, writtenHeader sec ms seq = 97 :: (mid ++ [41]) :=
    ⟨ofString "udit" ++ 40 :: (dec sec ++ 46 :: (pad3 ms ++ 58 :: dec seq)), by simp [writtenHeader, ofString]⟩
  obtain ⟨t', ht', -⟩ := trimSpace_keeps_prefix 97 mid 41 tail (by decide) (by decide) (by decide) (by decide)
  exact ⟨t', by simpa [e] using ht'⟩

/-- The property's round trip with no side condition: for every record type (named or
UNKNOWN[n]), time stamp, sequence number and every body, the line
'type=T msg=audit(S.mmm:N): body' parses to RecordType T, Timestamp S.mmm, Sequence N and
RawData = the trimmed text after 'msg=', which still begins with the written header. -/
theorem C04_roundtrip (t sec ms seq : Nat) (body : Bytes) (ht : t < 65536) (hs : sec < 2 ^ 34)
    (hm : ms < 1000) (hq : seq < 2 ^ 32) :
    ∃ off rest', trimSpace (writtenHeader sec ms seq ++ ofString ": " ++ body) = writtenHeader sec ms seq ++ rest' ∧
      parseLogLine (ofString "type=" ++ typeName t ++ ofString " msg=" ++ (writtenHeader sec ms seq ++ ofString ": " ++ body)) =
      Res.ok { typ := t, sec := sec, nsec := ((ms * 1000000 : Nat) : Int), seq := seq,
               raw := trimSpace (writtenHeader sec ms seq ++ ofString ": " ++ body), offset := off } := by
  obtain ⟨rest', hk⟩ := trim_keeps_written_header sec ms seq (ofString ": " ++ body)
  rw [← List.append_assoc] at hk
  refine ⟨?_, rest', hk, ?_⟩
  rotate_left  -- the offset is read off at the end
  rw [C04_parse_agrees _ _ t (typeName_no_m t) (MsgType.type_roundtrip t ht)]
  unfold parse
  simp only [bind, Bind.bind]
  -- the header round trip holds up to `2 ^ 63`; the `2 ^ 34` of the statement (the year 2514) is not needed
  rw [hk, C04_header_roundtrip sec ms seq rest' (by omega) hm hq]
  simp only [sliceFrom]
  rw [slice_ok ⟨Int.natCast_nonneg _, by rw [List.length_append]; omega, Int.le_refl _⟩]

/-- text that starts with a non-space ASCII byte and ends with one is left alone by TrimSpace. -/
theorem C04_trim_keeps_header (a : Nat) (mid : Bytes) (z : Nat) (ha : a < 128) (ha' : isAsciiSpace a = false)
    (hz : z < 128) (hz' : isAsciiSpace z = false) : trimSpace (a :: (mid ++ [z])) = a :: (mid ++ [z]) := by
  obtain ⟨t', h, hl⟩ := trimSpace_keeps_prefix a mid z [] ha ha' hz hz'
  rw [h, List.eq_nil_of_length_eq_zero (Nat.le_zero.mp hl)]

/-- ToMapStr always reports record_type, sequence, raw_msg and @timestamp from the header,
whatever keys the parsed body contains (they are written after the copy). -/
theorem C04_wellknown_keys (m : Msg) (d : DataOut) :
    mget (toMapStr m d) (ofString "record_type") = some (.str (typeName m.typ)) ∧
    mget (toMapStr m d) (ofString "sequence") = some (.str (dec m.seq)) ∧
    mget (toMapStr m d) (ofString "raw_msg") = some (.str m.raw) ∧
    mget (toMapStr m d) (ofString "@timestamp") = some (.timestamp m.sec m.nsec) := by
  -- each key is read through the assignments made after its own; the keys are compared as byte lists, which the
  -- literals are turned into once, outside the kernel
  unfold toMapStr
  rw [ofString_ofList, ofString_ofList, ofString_ofList, ofString_ofList, ofString_ofList,
    ofString_ofList]
  cases d.data <;> cases d.tags.isEmpty <;> simp (decide := true) only [mget_mset, if_true, if_false, and_self]

/-- A malformed header yields an error and no message: when the separators '(' '.' ':' ')' do not
occur in this order, or one of the three numbers is not a valid int64 / int64 / uint32 decimal. -/
theorem C04_error_cases (line : Bytes) :
    (headerIdx line = none → parseAuditHeader line = Res.err "hdr") ∧
    (∀ pre S M N rest, (40 : Nat) ∉ pre → (46 : Nat) ∉ S → (58 : Nat) ∉ M → (41 : Nat) ∉ N →
      line = pre ++ 40 :: (S ++ 46 :: (M ++ 58 :: (N ++ 41 :: rest))) →
      headerNums S M N = none → parseAuditHeader line = Res.err "hdr") ∧
    (∀ c typ, parseAuditHeader (trimSpace line) = Res.err c → parse typ line = Res.err c) := by
  refine ⟨?_, ?_, ?_⟩
  · exact parseAuditHeader_of_none
  · intro pre S M N rest h1 h2 h3 h4 hl hn
    rw [hl, parseAuditHeader_decomp _ _ _ _ _ h1 h2 h3 h4, hn]
  · intro c typ h
    simp [parse, bind, Bind.bind, h]

/-- truncation before ')' is an error: if the line has no ')' at all, parsing fails. -/
theorem C04_truncated (line : Bytes) (h : (41 : Nat) ∉ line) : parseAuditHeader line = Res.err "hdr" := by
  rcases headerIdx_cases line with hi | ⟨pre, S, M, N, rest, -, -, -, -, rfl⟩
  · exact parseAuditHeader_of_none hi
  · simp at h

/-- success ⇔ decomposes (the direction `C04_error_cases` leaves open is the first one): the header
parser answers with numbers exactly when the line decomposes, and then with the numbers of the
decomposition and the position of its ')'. -/
theorem C04_success_iff_decomposes (line : Bytes) (sec nsec : Int) (seq : Nat) (e : Int) :
    parseAuditHeader line = Res.ok (sec, nsec, seq, e) ↔ Decomposes line sec nsec seq e := by
  constructor
  · exact parseAuditHeader_ok_decomp
  · rintro ⟨pre, S, M, N, rest, n1, n2, n3, n4, el, hn, he⟩
    rw [el, parseAuditHeader_decomp pre S M N rest n1 n2 n3 n4, hn, he]

/-- the header parser has three outcomes only, and the middle one is the error of the property:
numbers of a decomposition, or "hdr"; it never indexes out of range. -/
theorem C04_error_iff (line : Bytes) :
    parseAuditHeader line = Res.err "hdr" ↔ ¬ ∃ sec nsec seq e, Decomposes line sec nsec seq e := by
  constructor
  · rintro h ⟨sec, nsec, seq, e, hd⟩
    rw [(C04_success_iff_decomposes line sec nsec seq e).2 hd] at h
    cases h
  · intro h
    rcases parseAuditHeader_cases line with hp | ⟨⟨sec, nsec, seq, e⟩, hp⟩
    · exact hp
    · exact absurd ⟨sec, nsec, seq, e, (C04_success_iff_decomposes line sec nsec seq e).1 hp⟩ h

/-- … and the same for `Parse` as a whole: a message comes back exactly when the trimmed text
decomposes; it then carries the given type, the trimmed text as RawData and the numbers of the
decomposition; otherwise the answer is the header error and no message. -/
theorem C04_parse_iff_decomposes (typ : Nat) (line : Bytes) :
    (∀ m, parse typ line = Res.ok m →
      m.typ = typ ∧ m.raw = trimSpace line ∧ ∃ e, Decomposes (trimSpace line) m.sec m.nsec m.seq e) ∧
    ((¬ ∃ sec nsec seq e, Decomposes (trimSpace line) sec nsec seq e) → parse typ line = Res.err "hdr") := by
  constructor
  · intro m hm
    obtain ⟨⟨sec, nsec, seq, e⟩, hp, hm⟩ := bind_eq_ok hm
    obtain ⟨tail, -, hm⟩ := bind_eq_ok hm
    cases hm
    exact ⟨rfl, rfl, e, parseAuditHeader_ok_decomp hp⟩
  · intro h
    exact (C04_error_cases line).2.2 "hdr" typ ((C04_error_iff _).2 h)

/-- non-vacuity of `Decomposes`: the header every test log starts with. -/
example : Decomposes (ofString "audit(1490137971.011:50406): a=b") 1490137971 11000000 50406 26 := by
  rw [ofString_ofList]
  exact (C04_success_iff_decomposes _ _ _ _ _).1 (by decide +kernel)

/-- the number a string of decimal digits denotes (no bound, no wrapping). -/
def digitsValue (bs : Bytes) : Nat := bs.foldl (fun a b => a * 10 + (b - 48)) 0

/-- **The sequence number of an accepted header is the number that was written.** Whatever header
the parser accepts, the text between ':' and ')' is a non-empty string of decimal digits, the
sequence number is the number those digits denote — as a natural number, not modulo anything — and
it fits in 32 bits. A digit string that denotes 2^32 or more (2^64 + 5, say, which is 5 modulo 2^64)
is a malformed header. -/
theorem C04_sequence_is_the_number_written (S M N : Bytes) (sec nsec : Int) (seq : Nat)
    (h : headerNums S M N = some (sec, nsec, seq)) :
    N ≠ [] ∧ (∀ b ∈ N, isDigit b = true) ∧ seq = digitsValue N ∧ seq < 2 ^ 32 := by
  revert h
  fun_cases headerNums S M N with
  | case1 | case2 | case3 => nofun   -- one of the three numbers does not parse
  | case4 _ _ _ _ q hq =>
    intro h
    cases h
    obtain ⟨hne, hv, hle⟩ := parseUint_eq_some hq
    obtain ⟨h1, h2⟩ := parseDigits_value hv
    exact ⟨hne, h1, h2, by omega⟩

example : headerNums (ofString "1490137971") (ofString "011") (ofString "18446744073709551621") = none := by
  rw [ofString_ofList, ofString_ofList, ofString_ofList]
  decide +kernel

/-- non-vacuity: the hypotheses of the round trip hold for a concrete line. -/
example : trimSpace (writtenHeader 1490137971 11 50406 ++ ofString ": " ++ ofString "a=b") =
    writtenHeader 1490137971 11 50406 ++ ofString ": a=b" := by
  unfold writtenHeader
  rw [ofString_ofList, ofString_ofList, ofString_ofList, ofString_ofList]
  decide +kernel

end LA.Auparse

/-! ### the code keeps nothing between calls that the model does not have -/

/-- Outside `init`, no function of package auparse writes a package-level variable, hands the address of one to a function or calls a
sync/atomic method on one (regenerated list, see LA.Proofs.StateFacts): the parser is a function of its argument. -/
theorem C04_parser_keeps_nothing_between_calls : LA.StateFacts.ofPkg "auparse" = [] := LA.StateFacts.ofPkg_auparse

/-- … and reads nothing of the process it runs in: package auparse calls no function of os, os/user, os/exec, net,
runtime, math/rand or crypto/rand, no time.Now / Since / Until, no file-system function of path/filepath and no
process query of syscall (`envReads`, regenerated with go/types on every run). What the parser answers is a function
of the bytes it is given — not of the machine's time zone, locale, user database, number of processors or files. -/
theorem C04_parser_reads_no_environment : LA.StateFacts.envOf "auparse" = [] := LA.StateFacts.envOf_auparse
