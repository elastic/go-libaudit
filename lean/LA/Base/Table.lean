/-
Shared table machinery: names as byte lists over Nat, their Nat codes (base 256 under a
leading 1), binary search trees keyed by Nat codes (emitted by the translator as
certificates: a lookup structure whose agreement with the plain list is checked by a
linear / n·log n evaluation), association-list lookup.
Core-only.
With each definition, what the proofs need of it: a tree finds only what it holds (`find_mem`); lookups in a list with
increasing keys (`lookupN_of_increasing`); a checkable form of "equal keys have equal values" (`functional_of_lookup`); a key
set as a bit mask (`keyMask`); names are determined by their codes (`encode_inj`).
-/
namespace LA

/-- code of a byte string: digits base 256 under a leading 1. -/
def encode (bs : List Nat) : Nat := bs.foldl (fun acc b => acc * 256 + b) 1

inductive Tree where
  | leaf
  | node (l : Tree) (k v : Nat) (r : Tree)
deriving Repr, Inhabited

namespace Tree

def find : Tree → Nat → Option Nat
  | leaf, _ => none
  | node l k v r, x => if x < k then l.find x else if k < x then r.find x else some v

def toList : Tree → List (Nat × Nat)
  | leaf => []
  | node l k v r => l.toList ++ (k, v) :: r.toList

theorem find_mem {t : Tree} {x v : Nat} (h : t.find x = some v) : (x, v) ∈ t.toList := by
  fun_induction find t x with
  | case1 => cases h
  | case2 l k v' r x _ ih => exact List.mem_append_left _ (ih h)
  | case3 l k v' r x _ _ ih => exact List.mem_append_right _ (List.mem_cons_of_mem _ (ih h))
  | case4 l k v' r x h1 h2 =>
    cases h
    exact (by omega : x = k) ▸ List.mem_append_right _ List.mem_cons_self

end Tree

def lookupN {α : Type} : List (Nat × α) → Nat → Option α
  | [], _ => none
  | (k, v) :: rest, x => if k == x then some v else lookupN rest x

theorem mem_of_lookupN {α : Type} {l : List (Nat × α)} {x : Nat} {v : α} (h : lookupN l x = some v) :
    (x, v) ∈ l := by
  fun_induction lookupN l x with
  | case1 => cases h
  | case2 x k w rest hk => cases h; exact beq_iff_eq.mp hk ▸ List.mem_cons_self
  | case3 x k w rest hk ih => exact List.mem_cons_of_mem _ (ih h)

theorem lookupN_none {α : Type} {l : List (Nat × α)} {x : Nat} (h : lookupN l x = none) :
    ∀ v, (x, v) ∉ l := by
  fun_induction lookupN l x with
  | case1 => exact fun _ => nofun
  | case2 => cases h
  | case3 x k w rest hk ih =>
    intro v hv
    rcases List.mem_cons.mp hv with hv | hv
    · exact hk (beq_iff_eq.mpr (Prod.mk.inj hv).1.symm)
    · exact ih h v hv

theorem lookupN_eq_some_of_mem {α : Type} {l : List (Nat × α)} {x : Nat} (h : x ∈ l.map (·.1)) :
    ∃ v, lookupN l x = some v := by
  cases hl : lookupN l x with
  | some v => exact ⟨v, rfl⟩
  | none =>
    obtain ⟨p, hp, rfl⟩ := List.mem_map.mp h
    exact absurd hp (lookupN_none hl p.2)

/-- Equal keys have equal values in a table every row of which a lookup function `f` finds under its key. That is how
"functional" is checked for a table: one lookup per row (n·log n against a search tree) where comparing all pairs of rows
is quadratic. -/
theorem functional_of_lookup {α κ ν : Type} [BEq ν] [LawfulBEq ν] {l : List α} {key : α → κ} {val : α → ν}
    {f : κ → Option ν} (cert : l.all (fun p => f (key p) == some (val p)) = true) :
    ∀ p ∈ l, ∀ q ∈ l, key p = key q → val p = val q := by
  intro p hp q hq h
  have h1 := List.all_eq_true.mp cert p hp
  have h2 := List.all_eq_true.mp cert q hq
  simp only [beq_iff_eq] at h1 h2
  rw [h, h2] at h1
  exact (Option.some.inj h1).symm

/-- The set of small numbers in a list as the bits of one number: the kernel tests membership by
arithmetic instead of a search (for keys up to a few thousand: the mask has as many bits). -/
def keyMask (l : List Nat) : Nat := l.foldl (fun m k => m ||| 2 ^ k) 0

theorem mem_of_testBit_keyMask {l : List Nat} {x : Nat} : (keyMask l).testBit x = true → x ∈ l := by
  suffices H : ∀ m, (l.foldl (fun m k => m ||| 2 ^ k) m).testBit x = true → m.testBit x = true ∨ x ∈ l from
    fun h => (H 0 h).resolve_left (by simp)
  induction l with
  | nil => exact fun _ h => Or.inl h
  | cons k l ih =>
    intro m h
    rcases ih _ h with h | h
    · rw [Nat.testBit_or, Nat.testBit_two_pow, Bool.or_eq_true, decide_eq_true_eq] at h
      exact h.imp id (fun (e : k = x) => e ▸ List.mem_cons_self)
    · exact Or.inr (List.mem_cons_of_mem _ h)

def strictlyIncreasing : List Nat → Bool
  | [] => true
  | [_] => true
  | a :: b :: rest => decide (a < b) && strictlyIncreasing (b :: rest)

theorem strictlyIncreasing_cons {a : Nat} {l : List Nat} (h : strictlyIncreasing (a :: l) = true) :
    (∀ b ∈ l, a < b) ∧ strictlyIncreasing l = true := by
  induction l generalizing a with
  | nil => exact ⟨nofun, rfl⟩
  | cons c l ih =>
    simp only [strictlyIncreasing, Bool.and_eq_true, decide_eq_true_eq] at h
    refine ⟨fun b hb => ?_, h.2⟩
    rcases List.mem_cons.mp hb with rfl | hb
    · exact h.1
    · exact Nat.lt_trans h.1 ((ih h.2).1 b hb)

theorem lookupN_of_increasing {α : Type} {l : List (Nat × α)} (hs : strictlyIncreasing (l.map (·.1)) = true)
    {p : Nat × α} (hp : p ∈ l) : lookupN l p.1 = some p.2 := by
  induction l with
  | nil => cases hp
  | cons q l ih =>
    obtain ⟨hlt, hs'⟩ := strictlyIncreasing_cons hs
    rcases List.mem_cons.mp hp with rfl | hp
    · simp [lookupN]
    · have : q.1 ≠ p.1 := Nat.ne_of_lt (hlt p.1 (List.mem_map_of_mem hp))
      simpa [lookupN, this] using ih hs' hp

def IsBytes (bs : List Nat) : Prop := ∀ b ∈ bs, b < 256

instance (bs : List Nat) : Decidable (IsBytes bs) := by unfold IsBytes; infer_instance

theorem encode_append_one (bs : List Nat) (b : Nat) : encode (bs ++ [b]) = encode bs * 256 + b := by
  simp [encode, List.foldl_append]

theorem encode_pos (bs : List Nat) : 1 ≤ encode bs := by
  suffices H : ∀ rs : List Nat, 1 ≤ encode rs.reverse by simpa using H bs.reverse
  intro rs
  induction rs with
  | nil => simp [encode]
  | cons x rs ih => rw [List.reverse_cons, encode_append_one]; omega

theorem one_lt_encode_snoc (bs : List Nat) (b : Nat) : 1 < encode (bs ++ [b]) := by
  have := encode_pos bs
  rw [encode_append_one]
  omega

theorem encode_rev_inj (ra rb : List Nat) (ha : IsBytes ra) (hb : IsBytes rb)
    (h : encode ra.reverse = encode rb.reverse) : ra = rb := by
  induction ra generalizing rb with
  | nil =>
    cases rb with
    | nil => rfl
    | cons y rb => exact absurd h (List.reverse_cons ▸ Nat.ne_of_lt (one_lt_encode_snoc ..))
  | cons x ra ih =>
    cases rb with
    | nil => exact absurd h (List.reverse_cons ▸ Nat.ne_of_gt (one_lt_encode_snoc ..))
    | cons y rb =>
      rw [List.reverse_cons, List.reverse_cons, encode_append_one, encode_append_one] at h
      have hx : x < 256 := ha x List.mem_cons_self
      have hy : y < 256 := hb y List.mem_cons_self
      rw [ih rb (fun z hz => ha z (List.mem_cons_of_mem _ hz)) (fun z hz => hb z (List.mem_cons_of_mem _ hz)) (by omega),
        show x = y by omega]

theorem encode_inj {a b : List Nat} (ha : IsBytes a) (hb : IsBytes b) (h : encode a = encode b) : a = b := by
  have := encode_rev_inj a.reverse b.reverse (fun z hz => ha z (by simpa using hz))
    (fun z hz => hb z (by simpa using hz)) (by simpa using h)
  simpa using congrArg List.reverse this

end LA
