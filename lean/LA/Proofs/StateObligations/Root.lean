/-
The facts about the regenerated lists of `LA.Gen.State` that the property files end on, evaluated once per package
(this file: the root package) so that a property file rests on the facts of its own packages and on no others.
An empty answer is left to the kernel (`decide +kernel`: nothing but the short package names is compared); an answer
that is a list of literals is a definitional unfolding (`Eq.refl`: the filter is run and the literals are compared as
they stand; `decide` compares them character by character, which is dear).
-/
import LA.Proofs.StateFacts

namespace LA.StateFacts

theorem ofPkg_root : ofPkg "" = [] := by decide +kernel
theorem envOf_root : envOf "" = rootEnv := Eq.refl _

end LA.StateFacts
