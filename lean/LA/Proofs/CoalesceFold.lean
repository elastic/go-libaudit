/-
Where a record's key/value pairs end up.  `newEvent` routes every pair of the primary record;
each step of the record loop of `normalizeCompound` places every pair of its record (or warns),
and the steps that follow leave it there (`SFrame`): `fold_kept`.
-/
import LA.Proofs.CoalesceSteps
import LA.Proofs.CoalesceOrder

namespace LA.Coalesce

theorem newEvent_kept (T : Tables) (first src : View) {d : KV} (hd : src.data = some d) (hn : NoDupKeys d)
    {k v : Bytes} (h : (k, v) ∈ d) :
    StableLoc (newEvent T first src) k v ∨ lookup k (newEvent T first src).data = some v := by
  have hl := lookup_of_mem_nodup hn h
  have hc := newEvent_lookup T first src hd hn k
  by_cases h1 : k = kResult
  · refine Or.inl (.ofResult h1 ?_)
    rw [newEvent_of_data T first src hd, ← h1]
    show (lookup k d).getD vUnknown = v
    rw [hl]; rfl
  by_cases h2 : k = kSes
  · refine Or.inl (.ofSession h2 ?_)
    rw [newEvent_of_data T first src hd, ← h2]
    exact getD_of_lookup hl
  by_cases h3 : isIdKey k = true
  · exact Or.inl (.ofIds ((hc.1 (by simp [toIds, h1, h2, h3])).trans hl))
  by_cases h4 : hasPrefix kSubj_ k = true
  · exact Or.inl (.ofSelinux h4 ((hc.2.1 (by simp [toSelinux, h1, h2, h3, h4])).trans hl))
  · exact Or.inr ((hc.2.2 (by simp [toData, h1, h2, h3, h4])).trans hl)

theorem foldl_addField_kept (typ : Nat) {d : KV} (hn : NoDupKeys d) (e : Event) {k v : Bytes} (h : (k, v) ∈ d) :
    Warn.dupKey k typ ∈ (d.foldl (addField typ) e).warnings ∨
    (hasKey k e.data = false ∧ lookup k (d.foldl (addField typ) e).data = some v) := by
  rw [(foldl_addField_closed typ d hn e).1, (foldl_addField_closed typ d hn e).2]
  cases hk : hasKey k e.data with
  | true => exact Or.inl (List.mem_append_right _ (List.mem_map.mpr ⟨(k, v), List.mem_filter.mpr ⟨h, hk⟩, rfl⟩))
  | false =>
    refine Or.inr ⟨rfl, ?_⟩
    rw [lookup_append, hasKey_false_iff.mp hk]
    exact lookup_of_mem_nodup (((List.filter_sublist ..).map _).nodup hn) (List.mem_filter.mpr ⟨h, by rw [hk]; rfl⟩)

/-- what the property assumes of one record: its Data() map is a map, and an EXECVE record
carries `argc` and `a0 … a(argc-1)` only. -/
structure RecOK (m : View) : Prop where
  nodup : ∀ d, m.data = some d → NoDupKeys d
  execve : m.typ = EXECVE → ∀ d, m.data = some d → ∀ argc n, lookup kArgc d = some argc →
    parseUint 10 32 argc = some n → ∀ k ∈ keys d, k = kArgc ∨ ∃ i, i < n ∧ k = argKey i

theorem addSockaddr_kept (m : View) (hm : m.typ = SOCKADDR) (e : Event) {d : KV} (hd : m.data = some d)
    (hn : NoDupKeys d) {k v : Bytes} (h : (k, v) ∈ d) : Settled (addSockaddr m e) m.typ k v := by
  rcases addSockaddr_cases m e with ⟨w, hw, hs⟩ | ⟨d', s, t, n, hd', hs⟩ <;> rw [hs]
  · rcases hw with hw | rfl
    · rw [hd] at hw; cases hw
    · exact .warned (.sockaddr hm (mem_warn e _))
  · cases hd.symm.trans hd'
    -- the loop runs over the record with every key under its `socket_` prefix
    have key := foldl_addField_kept m.typ (hn.map_key fun _ _ => List.append_cancel_left) e
      (List.mem_map.mpr ⟨(k, v), h, rfl⟩ : (kSocket_ ++ k, v) ∈ d.map fun kv => (kSocket_ ++ kv.1, kv.2))
    rw [List.foldl_map] at key
    rcases key with key | ⟨_, key⟩
    · exact .warned (.dupSocket key)
    · exact .socketData key

theorem collectArgs_get (d : KV) {n j : Nat} {as : List Bytes} (h : collectArgs d n j = .ok as) {i : Nat}
    (hi : i < n) : as[i]? = lookup (argKey (j + i)) d := by
  induction n generalizing j as i with
  | zero => omega
  | succ n ih =>
    unfold collectArgs at h
    split at h
    · cases h
    · rename_i a ha
      split at h
      · rename_i as' has'
        cases h
        cases i with
        | zero => simp [ha]
        | succ i =>
          rw [List.getElem?_cons_succ, ih has' (by omega)]
          congr 2; omega
      · cases h

theorem addExecve_kept (m : View) (hm : m.typ = EXECVE) (e : Event) (hok : RecOK m) {d : KV} (hd : m.data = some d)
    {k v : Bytes} (h : (k, v) ∈ d) :
    Settled (addExecve m e) m.typ k v ∨ ArgsLoc (addExecve m e) k v := by
  rcases addExecve_cases m e with ⟨e1, w, _, hw, hs⟩ | ⟨d', argc, n, as, hd', hargc, hparse, has, hs⟩ <;> rw [hs]
  · rcases hw with hw | hw
    · rw [hd] at hw; cases hw
    · exact Or.inl (.warned (.execve hm hw (mem_warn ..)))
  · cases hd.symm.trans hd'
    have hl := lookup_of_mem_nodup (hok.nodup d hd) h
    rcases hok.execve hm d hd argc n hargc hparse k (mem_keys_of_mem h) with rfl | ⟨i, hi, rfl⟩
    · cases hl.symm.trans hargc
      rcases foldl_addField_kept m.typ (d := [(kArgc, v)]) (List.pairwise_singleton ..) e (List.mem_singleton_self _)
        with key | ⟨_, key⟩
      · exact Or.inl (.warned (.dup key))
      · exact Or.inl (.data (by decide) key)
    · exact Or.inr ⟨i, rfl, (collectArgs_get d has hi).trans (by rw [Nat.zero_add, hl])⟩

theorem step_kept (e : Event) (m : View) (hm : m.typ ≠ SYSCALL) (hok : RecOK m) {d : KV} (hd : m.data = some d)
    {k v : Bytes} (h : (k, v) ∈ d) :
    Settled (step e m) m.typ k v ∨ (m.typ = EXECVE ∧ ArgsLoc (step e m) k v) ∨
    (k = kItems ∧ IsOther m.typ ∧ hasKey kItems e.data = false ∧ lookup k (step e m).data = some v) := by
  rcases step_cases e m with ⟨ht, _⟩ | ⟨_, hs⟩ | ⟨ht, hs⟩ | ⟨ht, hs⟩ | ⟨ht, hs⟩
  · exact absurd ht hm
  · rw [hs, addPath, hd]
    exact Or.inl (.stable (.ofPath (List.mem_append_right _ (List.mem_singleton_self d)) h))
  · rw [hs]
    exact Or.inl (addSockaddr_kept m ht e hd (hok.nodup d hd) h)
  · rw [hs]
    exact (addExecve_kept m ht e hok hd h).imp_right fun h' => Or.inl ⟨ht, h'⟩
  · rw [hs, addOther, hd]
    rcases foldl_addField_kept m.typ (hok.nodup d hd) e h with h' | ⟨hi, h'⟩
    · exact Or.inl (.warned (.dup h'))
    · by_cases hk : k = kItems
      · exact Or.inr (Or.inr ⟨hk, ht, hk ▸ hi, h'⟩)
      · exact Or.inl (.data hk h')

def nSys (l : List View) : Nat := l.countP (fun m => decide (m.typ = SYSCALL))
def nExec (l : List View) : Nat := l.countP (fun m => decide (m.typ = EXECVE))

theorem typ_ne_of_countP_zero {t : Nat} {l : List View} (h : l.countP (fun m => decide (m.typ = t)) = 0) :
    ∀ m ∈ l, m.typ ≠ t :=
  fun m hm => by simpa using List.countP_eq_zero.mp h m hm

theorem unique_syscall {recs : List View} (h : nSys recs = 1) {m s : View} (hm : m ∈ recs) (hs : s ∈ recs)
    (hmt : m.typ = SYSCALL) (hst : s.typ = SYSCALL) : m = s := by
  rw [nSys, List.countP_eq_length_filter] at h
  obtain ⟨x, hx⟩ := List.length_eq_one_iff.mp h
  have hm' : m ∈ [x] := hx ▸ List.mem_filter.mpr ⟨hm, decide_eq_true hmt⟩
  have hs' : s ∈ [x] := hx ▸ List.mem_filter.mpr ⟨hs, decide_eq_true hst⟩
  rw [List.mem_singleton] at hm' hs'
  rw [hm', hs']

/-- `hI` is what saves an `items` pair of an AVC-like record from the `delete` of a SYSCALL step
after it: either Data has `items` before the loop (put there by `newEvent` from the SYSCALL
record), so that the pair is a duplicate and is warned about, or no such record carries the key. -/
theorem fold_kept (rest : List View) (e : Event) (hS : nSys rest ≤ 1) (hE : nExec rest ≤ 1)
    (hI : hasKey kItems e.data = true ∨
      ∀ m ∈ rest, IsOther m.typ → ∀ d, m.data = some d → lookup kItems d = none)
    (hR : ∀ m ∈ rest, RecOK m) {m : View} (hm : m ∈ rest) (hmt : m.typ ≠ SYSCALL) {d : KV} (hd : m.data = some d)
    {k v : Bytes} (hkv : (k, v) ∈ d) : Held (rest.foldl step e) m.typ k v := by
  -- the records before `m`, the step of `m` (which places the pair), the records after it
  obtain ⟨l1, l2, hl⟩ := List.append_of_mem hm
  subst hl
  simp only [nSys, nExec, List.countP_append, List.countP_cons, hmt, decide_false, Bool.false_eq_true, if_false,
    Nat.add_zero] at hS hE
  rw [List.foldl_append, List.foldl_cons]
  have hfr := foldl_step_sframe l2 (step (l1.foldl step e) m)
  rcases step_kept (l1.foldl step e) m hmt (hR m hm) hd hkv with h | ⟨he, h⟩ | ⟨hk, ho, hi, hl⟩
  · exact .settled (h.mono hfr)
  · refine .args (h.of_args (hfr.args (typ_ne_of_countP_zero ?_)))
    simp only [he, decide_true, if_true] at hE
    omega
  · -- `items` of an AVC-like record, absent before: a SYSCALL record after `m` would delete it
    rcases hI with hh | hh
    · -- Data had `items` before the loop and has it no more: a SYSCALL record came before `m`, so none follows
      have h1 : l1.countP (fun m => decide (m.typ = SYSCALL)) ≠ 0 := fun h0 => by
        obtain ⟨y, hy⟩ := hasKey_iff.mp hh
        cases (hasKey_false_iff.mp hi).symm.trans
          ((foldl_step_sframe l1 e).data kItems y (Or.inr (typ_ne_of_countP_zero h0)) hy)
      exact .data (hfr.data k v (Or.inr (typ_ne_of_countP_zero (by omega))) hl)
    · exact absurd (hk ▸ mem_keys_of_mem hkv) (lookup_eq_none_iff.mp (hh m hm ho d hd))

end LA.Coalesce
