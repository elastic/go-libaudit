/-
C12 — Data() recovers the values the kernel encoded into a record.

Kernel side (specification): a value every byte of which is in 0x21–0x7e and is not `"` (`isSafeByte`) is written in
double quotes, any other value as upper-case hex (`hexEnc`). The theorems take the two renderings one at a time: the
quoted one for a value in `InDomain` (non-empty; no quote character or space at either end; no backslash at the end),
the hex one for every byte string. `untrusted`, which chooses between the two as audit_log_untrustedstring does, is
written down for reference: no theorem is about it.
Parser side, in this order: upper-case hex is read back by each of the parser's readers of hex text; a quoted value is
tokenised whole and trimmed back to itself; a record `k1=e1 k2=e2 …` is cut into exactly its tokens and yields exactly
its fields (`C12_tokenize`, `C12_record_fields`); what the enrichment steps make of placeholders, results, unset ids,
exit codes and syscall numbers; the three socket address layouts. That every field of every decoded record type comes out
right end to end is tied by the correspondence runs on kernel-rendered records.
-/
import LA.Proofs.Auparse
import LA.Proofs.Tables
import LA.Proofs.StateObligations.Auparse

namespace LA.Auparse
open LA

def isSafeByte (b : Nat) : Bool := decide (33 ≤ b) && decide (b ≤ 126) && !(b == 34)

def upperHexDigit (n : Nat) : Nat := if n < 10 then 48 + n else 55 + n

/-- upper-case hex of a byte string (audit_log_n_hex). -/
def hexEnc : Bytes → Bytes
  | [] => []
  | b :: bs => upperHexDigit (b / 16) :: upperHexDigit (b % 16) :: hexEnc bs

/-- audit_log_untrustedstring -/
def untrusted (v : Bytes) : Bytes := if v.all isSafeByte then 34 :: (v ++ [34]) else hexEnc v

/-- the property's domain for a quoted value. -/
def InDomain (v : Bytes) : Prop :=
  v ≠ [] ∧ (∀ b, v.head? = some b → b ≠ 39 ∧ b ≠ 34 ∧ b ≠ 32) ∧
  (∀ b, v.getLast? = some b → b ≠ 39 ∧ b ≠ 34 ∧ b ≠ 32 ∧ b ≠ 92)

/-! ### the hex codec: `hexEnc` against the parser's three readers of hex text -/

theorem hexEnc_length (v : Bytes) : (hexEnc v).length = 2 * v.length := by
  induction v with
  | nil => rfl
  | cons b bs ih => simp [hexEnc, ih]; omega

theorem upperHexVal_digit : ∀ n, n < 16 → upperHexVal (upperHexDigit n) = some n := by decide

theorem hexVal_digit : ∀ n, n < 16 → hexVal (upperHexDigit n) = some n := by decide

theorem byte_nibbles {b : Nat} (h : b < 256) : b / 16 < 16 ∧ b % 16 < 16 ∧ b / 16 * 16 + b % 16 = b := by omega

/-- the upper-case decoder of hex.go and encoding/hex's of either case: one recursion over two digit readers -/
theorem decode_hexEnc (v : Bytes) (hv : IsBytes v) :
    decodeUpperHex (hexEnc v) = some v ∧ decodeHexAny (hexEnc v) = some v := by
  induction v with
  | nil => exact ⟨rfl, rfl⟩
  | cons b bs ih =>
    obtain ⟨hb, hbs⟩ := List.forall_mem_cons.mp hv
    obtain ⟨h1, h2, h3⟩ := byte_nibbles hb
    simp only [hexEnc, decodeUpperHex, decodeHexAny, upperHexVal_digit _ h1, upperHexVal_digit _ h2, hexVal_digit _ h1,
      hexVal_digit _ h2, ih hbs, h3, and_self]

theorem parseHexDigits_hexEnc (bs : Bytes) (hb : IsBytes bs) (acc : Nat) :
    parseHexDigits (hexEnc bs) acc = some (bs.foldl (fun a b => a * 256 + b) acc) := by
  induction bs generalizing acc with
  | nil => rfl
  | cons b bs ih =>
    obtain ⟨hb, hbs⟩ := List.forall_mem_cons.mp hb
    obtain ⟨h1, h2, h3⟩ := byte_nibbles hb
    simp only [hexEnc, parseHexDigits, hexVal_digit _ h1, hexVal_digit _ h2, List.foldl_cons, ih hbs]
    rw [Nat.add_mul, Nat.mul_assoc, Nat.add_assoc, h3]

/-- Upper-case hex decodes to the original bytes, for every byte string. -/
theorem C12_hex_roundtrip (v : Bytes) (hv : IsBytes v) : decodeUppercaseHexString (hexEnc v) = some v := by
  rw [decodeUppercaseHexString, hexEnc_length, if_neg (by simp)]
  exact (decode_hexEnc v hv).1

/-- … and a hex-decoded field gets its NULs shown as spaces (proctitle, cmd, …):
joining the NUL-separated pieces with a space is the original with NUL ↦ space. -/
theorem C12_nul_to_space (v : Bytes) :
    joinWith [32] (splitByte 0 v) = v.map (fun b => if b == 0 then 32 else b) := by
  induction v with
  | nil => rfl
  | cons b bs ih =>
    obtain ⟨cur, rest, hs⟩ := List.exists_cons_of_ne_nil (splitByte_ne_nil 0 bs)
    rw [splitByte, List.map_cons, ← ih, hs]
    cases hb : b == 0 <;> cases rest <;> simp [joinWith]

/-- execve arguments and unix socket paths: decoded up to the first NUL. -/
theorem C12_hex_cstring (v : Bytes) (hv : IsBytes v) :
    hexToString (hexEnc v) = some (v.takeWhile (fun b => !(b == 0))) := by
  simp [hexToString, C12_hex_roundtrip v hv]

/-! ### a quoted value: tokenised whole, trimmed back to itself -/

/-- A safe string in the domain, written in double quotes, is tokenised whole … -/
theorem C12_quoted_token (v rest : Bytes) (hs : v.all isSafeByte = true) (hd : InDomain v) :
    matchValue (34 :: (v ++ 34 :: rest)) = some (v.length + 2) := by
  have hq : (34 : Nat) ∉ v := by
    intro h
    have := List.all_eq_true.mp hs 34 h
    simp [isSafeByte] at this
  exact matchValue_quoted v rest hq fun b hb => (hd.2.2 b hb).2.2.2

/-- … and trimming quotes and spaces gives back exactly the value. -/
theorem C12_trim_quoted (v : Bytes) (hd : InDomain v) : trimQuotesAndSpace (34 :: (v ++ [34])) = v := by
  obtain ⟨hne, hh, hl⟩ := hd
  have cut : ∀ b, b ≠ 39 ∧ b ≠ 34 ∧ b ≠ 32 → ([39, 34, 32] : Bytes).contains b = false := by
    intro b h; simp [h]
  -- the opening quote goes and the head of `v` stops the scan; reversed, the same with the closing quote and the last byte
  have h1 : (34 :: (v ++ [34])).dropWhile (fun b => ([39, 34, 32] : Bytes).contains b) = v ++ [34] := by
    rw [List.dropWhile_cons, if_pos (by decide)]
    cases v with
    | nil => exact absurd rfl hne
    | cons a tl => exact dropWhile_of_head fun b hb => cut b (hh b hb)
  have h2 : (34 :: v.reverse).dropWhile (fun b => ([39, 34, 32] : Bytes).contains b) = v.reverse := by
    rw [List.dropWhile_cons, if_pos (by decide)]
    refine dropWhile_of_head fun b hb => cut b ?_
    have := hl b (by rwa [List.getLast?_eq_head?_reverse])
    exact ⟨this.1, this.2.1, this.2.2.1⟩
  rw [trimQuotesAndSpace, trimSet, h1, List.reverse_append, List.reverse_singleton, List.singleton_append, h2,
    List.reverse_reverse]

/-- non-vacuity: a value in the domain. -/
example : InDomain (ofString "/usr/bin/bash") ∧ (ofString "/usr/bin/bash").all isSafeByte = true := by
  rw [ofString_ofList]
  exact ⟨⟨by decide +kernel, by rintro _ ⟨⟩; decide +kernel, by rintro _ ⟨⟩; decide +kernel⟩, by decide +kernel⟩

/-! ### a whole record: its tokens, its fields -/

/-- a value as the kernel writes it after `key=`: plain (a number, a word, upper-case hex — no
quote, no white space) or a double-quoted string without a quote inside that does not end in a
backslash. -/
inductive EncOk : Bytes → Prop
  | plain (v : Bytes) : v ≠ [] → (∀ b ∈ v, isPlainValByte b = true) → EncOk v
  | quoted (v : Bytes) : (34 : Nat) ∉ v → (∀ b, v.getLast? = some b → b ≠ 92) → EncOk (34 :: (v ++ [34]))

/-- `k1=e1 k2=e2 …` -/
def render : List (Bytes × Bytes) → Bytes
  | [] => []
  | [(k, e)] => k ++ 61 :: e
  | (k, e) :: rest => k ++ 61 :: (e ++ 32 :: render rest)

theorem matchValue_enc (e tail : Bytes) (he : EncOk e) (ht : tail = [] ∨ ∃ t, tail = 32 :: t) :
    matchValue (e ++ tail) = some e.length := by
  cases he with
  | plain _ hne hp =>
    cases e with
    | nil => exact absurd rfl hne
    | cons b bs =>
      have hb := hp b (by simp)
      have htw : ((b :: bs) ++ tail).takeWhile isPlainValByte = b :: bs := by
        apply takeWhile_append_stop _ _ hp
        rcases ht with rfl | ⟨t, rfl⟩
        · exact Or.inl rfl
        · exact Or.inr ⟨32, t, rfl, by decide⟩
      simp only [List.cons_append] at htw ⊢
      simp only [matchValue, hb, if_true, htw]
  | quoted v hq hl =>
    rw [List.cons_append, List.append_assoc, List.singleton_append, matchValue_quoted v tail hq hl, List.length_cons,
      List.length_append, List.length_singleton]

theorem kvMatches_field {k e : Bytes} (tail : Bytes) (fuel : Nat) (hne : k ≠ []) (hk : ∀ b ∈ k, isKeyByte b = true)
    (he : EncOk e) (ht : tail = [] ∨ ∃ t, tail = 32 :: t) :
    kvMatches (fuel + 1) (k ++ 61 :: (e ++ tail)) = (k, e) :: kvMatches fuel tail := by
  obtain ⟨kb, kt, rfl⟩ := List.exists_cons_of_ne_nil hne
  have hkey : ((kb :: kt) ++ 61 :: (e ++ tail)).takeWhile isKeyByte = kb :: kt :=
    takeWhile_append_stop _ _ hk (Or.inr ⟨61, _, rfl, by decide⟩)
  rw [List.cons_append] at hkey ⊢
  simp only [kvMatches, hk kb (by simp), if_true, hkey]
  rw [← List.cons_append, List.drop_left' rfl]
  simp only [matchValue_enc e tail he ht, List.take_left' rfl, List.drop_left' rfl]

/-- Tokenizer over a whole record: a record rendered as `k1=e1 k2=e2 …` — keys made of key bytes,
values as the kernel encodes them — is cut into exactly those (key, encoded value) pairs, in
order: no field is lost, merged, split or truncated, whatever the values contain. -/
theorem C12_tokenize (fs : List (Bytes × Bytes))
    (hk : ∀ p ∈ fs, p.1 ≠ [] ∧ ∀ b ∈ p.1, isKeyByte b = true) (he : ∀ p ∈ fs, EncOk p.2)
    (fuel : Nat) (hf : (render fs).length + 1 ≤ fuel) : kvMatches fuel (render fs) = fs := by
  induction fs generalizing fuel with
  | nil => cases fuel <;> rfl
  | cons p rest ih =>
    obtain ⟨k, e⟩ := p
    obtain ⟨hkne, hkb⟩ : k ≠ [] ∧ ∀ b ∈ k, isKeyByte b = true := hk (k, e) (by simp)
    have hee : EncOk e := he (k, e) (by simp)
    obtain ⟨fuel, rfl⟩ : ∃ f, fuel = f + 1 := ⟨fuel - 1, by omega⟩
    cases rest with
    | nil =>
      have := kvMatches_field [] fuel hkne hkb hee (Or.inl rfl)
      rw [List.append_nil] at this
      rw [render, this]
      cases fuel <;> rfl
    | cons q qs =>
      -- one step over the separating space, then the induction hypothesis
      have hr : render ((k, e) :: q :: qs) = k ++ 61 :: (e ++ 32 :: render (q :: qs)) := by simp [render]
      rw [hr] at hf ⊢
      obtain ⟨fuel, rfl⟩ : ∃ f, fuel = f + 1 := ⟨fuel - 1, by simp at hf; omega⟩
      rw [kvMatches_field _ _ hkne hkb hee (Or.inr ⟨_, rfl⟩), kvMatches, if_neg (by decide),
        ih (fun q hq => hk q (by simp [hq])) (fun q hq => he q (by simp [hq])) fuel (by simp at hf ⊢; omega)]

/-- non-vacuity: the hypotheses hold for the fields of `a=42 exe="/x"`, and the theorem then gives
the two tokens. -/
example : kvMatches 40 (render [([97], [52, 50]), ([101, 120, 101], 34 :: ([47, 120] ++ [34]))]) =
    [([97], [52, 50]), ([101, 120, 101], 34 :: ([47, 120] ++ [34]))] := by
  refine C12_tokenize _ (by decide +kernel) ?_ _ (by decide +kernel)
  rintro _ (_ | ⟨_, _ | ⟨_, ⟨⟩⟩⟩)
  · exact .plain _ (List.cons_ne_nil _ _) (by decide +kernel)
  · exact .quoted _ (by decide +kernel) (by rintro _ ⟨⟩; decide +kernel)

/-- what Data() starts from for one token: the raw token and its value with quotes trimmed -/
def fieldOf (p : Bytes × Bytes) : Bytes × Field := (p.1, { orig := p.2, value := trimQuotesAndSpace p.2 })

/-- Field extraction over a whole record: for a record `k1=e1 k2=e2 …` with distinct keys, none
of them `msg`, whose values are not placeholders, extractKeyValuePairs yields exactly one entry
per field, in order, holding the raw token and the value with its quotes trimmed — nothing is
lost, merged or invented, whatever bytes the (kernel-encoded) values contain. -/
theorem C12_record_fields (fs : List (Bytes × Bytes))
    (hk : ∀ p ∈ fs, p.1 ≠ [] ∧ ∀ b ∈ p.1, isKeyByte b = true) (he : ∀ p ∈ fs, EncOk p.2)
    (hnd : (fs.map (·.1)).Nodup) (hmsg : ∀ p ∈ fs, (p.1 == keyMsg) = false)
    (hph : ∀ p ∈ fs, isPlaceholder (trimQuotesAndSpace p.2) = false) (fuel : Nat) :
    extractKV (fuel + 1) (render fs) = fs.map fieldOf := by
  unfold extractKV
  rw [C12_tokenize fs hk he _ (Nat.le_refl _)]
  clear hk he
  -- the fold appends at the end, so the induction goes over the record from its last field
  obtain ⟨r, rfl⟩ : ∃ r, fs = r.reverse := ⟨fs.reverse, (List.reverse_reverse fs).symm⟩
  induction r with
  | nil => rfl
  | cons m r ih =>
    rw [List.reverse_cons] at hnd hmsg hph ⊢
    rw [List.map_append, List.nodup_append] at hnd
    rw [List.foldl_append, ih hnd.1 (fun p hp => hmsg p (List.mem_append_left _ hp)) (fun p hp => hph p (List.mem_append_left _ hp))]
    simp only [List.foldl_cons, List.foldl_nil, hph m (by simp), hmsg m (by simp), Bool.false_eq_true, if_false]
    rw [fmAdd_fresh, List.map_append]
    · rfl
    · intro q hq
      obtain ⟨d, hd, rfl⟩ := List.mem_map.mp hq
      exact hnd.2.2 d.1 (List.mem_map_of_mem hd) m.1 (by simp)

/-! ### enrichment: placeholders, result, unset ids, exit codes and syscall numbers -/

/-- Exactly the placeholder values are dropped. -/
theorem C12_placeholders (v : Bytes) :
    isPlaceholder v = true ↔ v = [] ∨ v = ofString "?" ∨ v = ofString "?," ∨ v = ofString "(null)" := by
  simp [isPlaceholder, ofString, or_assoc]

/-- success/res become result=success|fail: success for "yes", "1" and anything starting with
"suc" (case-insensitive), fail otherwise. -/
theorem C12_result (v : Bytes) :
    resultOf v = ofString "success" ∨ resultOf v = ofString "fail" := by
  unfold resultOf; simp only; split <;> simp

example : resultOf (ofString "yes") = ofString "success" ∧ resultOf (ofString "no") = ofString "fail" ∧
    resultOf (ofString "SUCCESS") = ofString "success" := by
  unfold resultOf
  rw [ofString_ofList, ofString_ofList, ofString_ofList, ofString_ofList, ofString_ofList, ofString_ofList, ofString_ofList]
  decide +kernel

/-- An unset auid/ses (4294967295 or -1) becomes "unset"; any other value is left alone. -/
theorem C12_unset (k v : Bytes) (orig : Bytes) :
    fmFind (normalizeUnsetID [(k, ⟨orig, v⟩)] k) k =
      some ⟨orig, if v == ofString "4294967295" || v == ofString "-1" then ofString "unset" else v⟩ := by
  simp only [normalizeUnsetID, fmFind, List.find?_cons, beq_self_eq_true, Option.map_some]
  split <;> simp [fmSetValue, *]

/-- Negative exit codes become errno names, for every errno of the regenerated table; other
values are left as they are. (The table is sorted by number, which is checked by evaluation.) -/
theorem C12_exit_errno :
    ∀ p ∈ LA.Gen.Errno.errnoToName, Tables.errnoName p.1 = some p.2 :=
  fun _ hp => lookupN_of_increasing (by decide +kernel) hp

/-- arch/syscall numbers become the names in the published tables: for every entry (n, name) of the x86_64 table,
the lookup used by the parser returns `name`. -/
theorem C12_syscall_x86_64 :
    ∀ q ∈ LA.Gen.Syscalls_x86_64.table.zipIdx, Tables.syscallName (ofString "x86_64") q.1.1 = some q.1.2 :=
  Tables.syscallName_of_cert (nameTree := LA.Gen.Syscalls_x86_64.nameTree) rfl LA.Gen.Syscalls_x86_64.cert_nums

/-- A syscall name is reported only for a number the architecture's table lists, and it is the name listed there: a
number that is a table entry with a bit added (the x32 bit 0x40000000, say) or an offset names nothing unless the
table lists that very number, and is then reported as the number it is. (Completeness, every listed pair is found,
is `C12_syscall_x86_64` and the certificates behind it.) -/
theorem C12_syscall_name_only_from_table (arch : Bytes) (num : Nat) (nm : Bytes)
    (h : Tables.syscallName arch num = some nm) :
    ∃ t, Tables.sysTable arch = some t ∧ (num, nm) ∈ t.2.1 :=
  Tables.syscallName_mem h

example : Tables.syscallName (ofString "x86_64") (59 + 1073741824) = none := by
  rw [ofString_ofList]; decide +kernel
example : Tables.syscallName (ofString "x86_64") 59 = some (ofString "execve") := by
  rw [ofString_ofList, ofString_ofList]; decide +kernel

/-- **A syscall number the tables have no name for is left as the kernel wrote it** — in particular a
negative one (`syscall=-1` after a seccomp trap or an interrupted restart): when the field is a valid
decimal and the record has an arch, the step that resolves the name succeeds and changes nothing unless
the number is non-negative *and* the arch's table has a name for it. -/
theorem C12_syscall_without_name_is_kept (fm : FieldMap) (f a : Field) (n : Int)
    (hf : fmFind fm (ofString "syscall") = some f) (hn : parseInt 10 64 f.value = some n)
    (ha : fmFind fm (ofString "arch") = some a)
    (h : n < 0 ∨ Tables.syscallName a.value n.toNat = none) : syscallStep fm = Res.ok fm := by
  unfold syscallStep
  simp only [hf, hn, ha]
  rcases h with h | h
  · simp [h]
  · split
    · rfl
    · simp [h]

/-! ### socket addresses: the three struct layouts, in hex -/

theorem parseInt16_hexEnc {bs : Bytes} {n : Nat} (hb : IsBytes bs) (hne : bs ≠ [])
    (hv : bs.foldl (fun a b => a * 256 + b) 0 = n) (hn : n < 2 ^ (32 - 1)) : parseInt 16 32 (hexEnc bs) = some (n : Int) := by
  cases bs with
  | nil => exact absurd rfl hne
  | cons b tl =>
    have : 48 ≤ upperHexDigit (b / 16) := by unfold upperHexDigit; split <;> omega
    exact parseInt_unsigned (by omega) (by omega) (hv ▸ parseHexDigits_hexEnc _ hb 0) hn

/-- `be16`, `be32`: a big-endian field of two or four bytes, in hex, as `hexToDec` reads it. That is the signed
`strconv.ParseInt(h, 16, 32)` (hex.go), hence the bound `2147483648` = 2^31 on a four-byte field: with the top bit set it
is a range error. -/
theorem be16 (p : Nat) (hp : p < 65536) : parseInt 16 32 (hexEnc [p / 256, p % 256]) = some (p : Int) := by
  refine parseInt16_hexEnc ?_ (List.cons_ne_nil _ _) ?_ (by omega)
  · simp only [IsBytes, List.forall_mem_cons]
    exact ⟨by omega, Nat.mod_lt _ (by decide), nofun⟩
  · simp only [List.foldl_cons, List.foldl_nil]
    rw [Nat.zero_mul, Nat.zero_add, Nat.div_add_mod']

theorem be32 (n : Nat) (hn : n < 2147483648) :
    parseInt 16 32 (hexEnc [n / 16777216, n / 65536 % 256, n / 256 % 256, n % 256]) = some (n : Int) := by
  have d1 : n / 256 / 256 = n / 65536 := Nat.div_div_eq_div_mul ..
  have d2 : n / 65536 / 256 = n / 16777216 := Nat.div_div_eq_div_mul ..
  refine parseInt16_hexEnc ?_ (List.cons_ne_nil _ _) ?_ hn
  · simp only [IsBytes, List.forall_mem_cons]
    exact ⟨by omega, Nat.mod_lt _ (by decide), Nat.mod_lt _ (by decide), Nat.mod_lt _ (by decide), nofun⟩
  · simp only [List.foldl_cons, List.foldl_nil]
    rw [Nat.zero_mul, Nat.zero_add, ← d2, Nat.div_add_mod', ← d1, Nat.div_add_mod', Nat.div_add_mod']

theorem hexEnc_drop (v : Bytes) (n : Nat) : (hexEnc v).drop (2 * n) = hexEnc (v.drop n) := by
  induction n generalizing v with
  | zero => rfl
  | succ n ih => cases v with
    | nil => rfl
    | cons b bs => rw [Nat.mul_succ]; exact ih bs

theorem hexEnc_take (v : Bytes) (n : Nat) : (hexEnc v).take (2 * n) = hexEnc (v.take n) := by
  induction n generalizing v with
  | zero => rfl
  | succ n ih => cases v with
    | nil => rfl
    | cons b bs => rw [Nat.mul_succ]; simp only [hexEnc, List.take_succ_cons, ih bs]

theorem slice_hexEnc (v : Bytes) (i j : Nat) (hij : i ≤ j) (hj : j ≤ v.length) :
    slice (hexEnc v) ((2 * i : Nat) : Int) ((2 * j : Nat) : Int) = Res.ok (hexEnc ((v.drop i).take (j - i))) := by
  rw [slice_ok (by rw [hexEnc_length]; omega), Int.toNat_natCast, Int.toNat_natCast, hexEnc_drop, ← Nat.mul_sub, hexEnc_take]

theorem sliceFrom_hexEnc (v : Bytes) (i : Nat) (hi : i ≤ v.length) :
    sliceFrom (hexEnc v) ((2 * i : Nat) : Int) = Res.ok (hexEnc (v.drop i)) := by
  rw [sliceFrom, hexEnc_length, slice_hexEnc v i v.length hi (Nat.le_refl _), ← List.length_drop, List.take_length]

theorem hexToIP_hexEnc4 (a b c d : Nat) (ha : a < 256) (hb : b < 256) (hc : c < 256) (hd : d < 256) :
    hexToIP (hexEnc [a, b, c, d]) = Res.ok (joinWith [46] [dec a, dec b, dec c, dec d]) := by
  have one : ∀ x, x < 256 → decInt (hexToDecOr0 (hexEnc [x])) = dec x := by
    intro x hx
    rw [hexToDecOr0, parseInt16_hexEnc (n := x) (by intro y hy; simp at hy; omega) (by simp) (by simp) (by omega)]
    exact decInt_natCast x
  rw [← one a ha, ← one b hb, ← one c hc, ← one d hd]
  rfl

theorem hexToIP_hexEnc16 (addr : Bytes) (ha : IsBytes addr) (hal : addr.length = 16) :
    hexToIP (hexEnc addr) = Res.ok (ipString16 addr) := by
  have hla : (hexEnc addr).length = 32 := by rw [hexEnc_length, hal]
  rw [hexToIP, hla, (decode_hexEnc addr ha).2]; rfl

/-- IPv4: the hex of a struct sockaddr_in {AF_INET little-endian, port big-endian, 4 address
bytes, padding} decodes to family ipv4, the dotted-quad address and the port — for every port,
every address and any padding. -/
theorem C12_sockaddr_ipv4 (p a b c d : Nat) (pad : Bytes) (hp : p < 65536) (ha : a < 256) (hb : b < 256) (hc : c < 256)
    (hd : d < 256) :
    parseSockaddr (hexEnc ([2, 0, p / 256, p % 256, a, b, c, d] ++ pad)) =
      Res.ok [(ofString "family", ofString "ipv4"),
              (ofString "addr", joinWith [46] [dec a, dec b, dec c, dec d]),
              (ofString "port", dec p)] := by
  have hl : 8 ≤ ([2, 0, p / 256, p % 256, a, b, c, d] ++ pad).length := Nat.le_add_left 8 pad.length
  have sl := fun i j hij (hj : j ≤ 8) => slice_hexEnc _ i j hij (Nat.le_trans hj hl)
  have s1 : slice _ 2 4 = Res.ok (hexEnc [0]) := sl 1 2 (by decide) (by decide)
  have s2 : slice _ 0 2 = Res.ok (hexEnc [2]) := sl 0 1 (by decide) (by decide)
  have s3 : slice _ 4 8 = Res.ok (hexEnc [p / 256, p % 256]) := sl 2 4 (by decide) (by decide)
  have s4 : slice _ 8 16 = Res.ok (hexEnc [a, b, c, d]) := sl 4 8 (by decide) (by decide)
  have fam : parseInt 16 32 (hexEnc [0] ++ hexEnc [2]) = some 2 := by decide +kernel
  rw [parseSockaddr, if_neg (by rw [hexEnc_length]; omega)]
  simp only [s1, s2, s3, s4, fam, be16 p hp, hexToIP_hexEnc4 a b c d ha hb hc hd, bind, Bind.bind]
  rw [if_neg (by decide), if_pos (by decide), if_neg (by rw [hexEnc_length]; omega), decInt_natCast]

/-- IPv6: the hex of a struct sockaddr_in6 {AF_INET6 little-endian, port big-endian, flowinfo
big-endian, 16 address bytes, scope id} decodes to family ipv6, the port, the flow label when it
is non-zero, and the text form of exactly those 16 address bytes (`ipString16` is the model of
net.IP.String: dotted quad for v4-mapped addresses, else RFC 5952 compression). -/
theorem C12_sockaddr_ipv6 (p flow : Nat) (addr scope : Bytes) (hp : p < 65536) (hf : flow < 2147483648)
    (ha : IsBytes addr) (hal : addr.length = 16) :
    parseSockaddr (hexEnc ([10, 0, p / 256, p % 256, flow / 16777216, flow / 65536 % 256, flow / 256 % 256, flow % 256] ++
        (addr ++ scope))) =
      Res.ok ([(ofString "family", ofString "ipv6"), (ofString "addr", ipString16 addr), (ofString "port", dec p)] ++
        (if flow > 0 then [(ofString "flow", dec flow)] else [])) := by
  have hl : 24 ≤ ([10, 0, p / 256, p % 256, flow / 16777216, flow / 65536 % 256, flow / 256 % 256, flow % 256] ++
      (addr ++ scope)).length := by
    simp only [List.length_append, List.length_cons, List.length_nil, hal]
    omega
  have sl := fun i j hij (hj : j ≤ 24) => slice_hexEnc _ i j hij (Nat.le_trans hj hl)
  have s1 : slice _ 2 4 = Res.ok (hexEnc [0]) := sl 1 2 (by decide) (by decide)
  have s2 : slice _ 0 2 = Res.ok (hexEnc [10]) := sl 0 1 (by decide) (by decide)
  have s3 : slice _ 4 8 = Res.ok (hexEnc [p / 256, p % 256]) := sl 2 4 (by decide) (by decide)
  have s4 : slice _ 8 16 = Res.ok (hexEnc [flow / 16777216, flow / 65536 % 256, flow / 256 % 256, flow % 256]) :=
    sl 4 8 (by decide) (by decide)
  have s5 : slice _ 16 48 = Res.ok (hexEnc ((addr ++ scope).take 16)) := sl 8 24 (by decide) (by decide)
  rw [List.take_left' hal] at s5
  have fam : parseInt 16 32 (hexEnc [0] ++ hexEnc [10]) = some 10 := by decide +kernel
  rw [parseSockaddr, if_neg (by rw [hexEnc_length]; omega)]
  simp only [s1, s2, s3, s4, s5, fam, be16 p hp, be32 flow hf, hexToIP_hexEnc16 addr ha hal, bind, Bind.bind]
  rw [if_neg (by decide), if_neg (by decide), if_pos (by decide), if_neg (by rw [hexEnc_length]; omega)]
  simp only [decInt_natCast, gt_iff_lt, Int.natCast_pos]

/-- Unix sockets: the hex of {AF_UNIX little-endian, path, NUL, anything} decodes to family unix
and the path up to the first NUL. -/
theorem C12_sockaddr_unix (path junk : Bytes) (hp : IsBytes path) (hj : IsBytes junk) (h0 : (0 : Nat) ∉ path) :
    parseSockaddr (hexEnc ([1, 0] ++ path ++ 0 :: junk)) =
      Res.ok [(ofString "family", ofString "unix"), (ofString "path", path)] := by
  have hl : 2 ≤ ([1, 0] ++ path ++ 0 :: junk).length := by simp
  have s1 : slice _ 2 4 = Res.ok (hexEnc [0]) := slice_hexEnc _ 1 2 (by decide) hl
  have s2 : slice _ 0 2 = Res.ok (hexEnc [1]) := slice_hexEnc _ 0 1 (by decide) (Nat.le_of_succ_le hl)
  have s3 : sliceFrom _ 4 = Res.ok (hexEnc (path ++ 0 :: junk)) := sliceFrom_hexEnc _ 2 hl
  have fam : parseInt 16 32 (hexEnc [0] ++ hexEnc [1]) = some 1 := by decide +kernel
  have hb : IsBytes (path ++ 0 :: junk) := List.forall_mem_append.mpr ⟨hp, List.forall_mem_cons.mpr ⟨by decide, hj⟩⟩
  have hstr : hexToString (hexEnc (path ++ 0 :: junk)) = some path := by
    rw [C12_hex_cstring _ hb, takeWhile_append_stop path (0 :: junk) (fun b hb => by simp; rintro rfl; exact h0 hb)
      (Or.inr ⟨0, junk, rfl, rfl⟩)]
  rw [parseSockaddr, if_neg (by rw [hexEnc_length]; omega)]
  simp only [s1, s2, s3, fam, hstr, bind, Bind.bind]
  rfl

end LA.Auparse

/-! ### the code keeps nothing between calls that the model does not have -/

/-- Outside `init`, no function of package auparse writes a package-level variable, hands the address of one to a function or calls a
sync/atomic method on one (regenerated list, see LA.Proofs.StateFacts): the parser is a function of its argument. -/
theorem C12_parser_keeps_nothing_between_calls : LA.StateFacts.ofPkg "auparse" = [] := LA.StateFacts.ofPkg_auparse

/-- … and reads nothing of the process it runs in: package auparse calls no function of os, os/user, os/exec, net,
runtime, math/rand or crypto/rand, no time.Now / Since / Until, no file-system function of path/filepath and no
process query of syscall (`envReads`, regenerated with go/types on every run). What the parser answers is a function
of the bytes it is given — not of the machine's time zone, locale, user database, number of processors or files. -/
theorem C12_parser_reads_no_environment : LA.StateFacts.envOf "auparse" = [] := LA.StateFacts.envOf_auparse
