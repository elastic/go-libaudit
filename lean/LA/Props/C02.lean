/-
C02 — Reassembled events are delivered in ascending sequence order (roll-over aware).
Hypothesis `WinRun`: at every push, the buffered sequence numbers together with the new
one lie in one 2^24 window (the window may be a different one at every push, and may
straddle 2^32-1 → 0).
-/
import LA.Proofs.ReasmOrder
import LA.Gen.Consts
import LA.Proofs.StateObligations.Root
import LA.Gen.ReasmFacts

namespace LA.Reasm

/-- the regenerated constant is the one the model uses. -/
theorem C02_const : LA.Gen.Consts.maxSortRange = maxSortRange ∧ maxSortRange = 2 ^ 24 - 1 := by decide

/-- in-window condition for one operation in state `s`. -/
def winOK (s : St) : Op → Prop
  | .push m _ _ => ∃ w, ∀ k ∈ m.seq :: keys s.buf, InWin w k
  | _ => True

/-- in-window condition for a whole history started in `s`. -/
def WinRun (s : St) : List Op → Prop
  | [] => True
  | op :: ops => winOK s op ∧ WinRun (step s op).1 ops

theorem winRun_append {s : St} {a b : List Op} : WinRun s (a ++ b) ↔ WinRun s a ∧ WinRun (run s a).1 b := by
  induction a generalizing s with
  | nil => simp [WinRun, run]
  | cons op a ih => simp [WinRun, run, ih, and_assoc]

theorem sorted_put {s : St} (hsorted : SortedKeys (keys s.buf)) (m : Msg) (t : Int)
    (hw : ∃ w, ∀ k ∈ m.seq :: keys s.buf, InWin w k) : SortedKeys (keys (put s m t).buf) := by
  rcases put_cases s m t with ⟨_, hb⟩ | ⟨_, _, hb⟩ | ⟨_, hk, hb⟩ <;> rw [hb]
  · rwa [keys_modifyKey]
  · rwa [keys_modifyKey]
  · obtain ⟨w, hw⟩ := hw
    obtain ⟨hm, hb⟩ := List.forall_mem_cons.mp hw
    exact sorted_insertEnd _ _ hm hb hk hsorted

theorem sorted_step {s : St} (hsorted : SortedKeys (keys s.buf)) (op : Op) (hw : winOK s op) :
    SortedKeys (keys (evictedBy s op) ++ keys (step s op).1.buf) := by
  rw [keys, keys, ← List.map_append, (step_spec s op).buf]
  cases op with
  | push m tp tc => exact sorted_put hsorted m tp hw
  | _ => exact hsorted

theorem sorted_run {s : St} (hsorted : SortedKeys (keys s.buf)) (ops : List Op) (hw : WinRun s ops) :
    SortedKeys (keys (run s ops).1.buf) := by
  induction ops generalizing s with
  | nil => exact hsorted
  | cons op ops ih =>
    exact ih ((sorted_step hsorted op hw.1).sublist (List.sublist_append_right ..)) hw.2

/-- In every reachable in-window state the buffer is sorted by the roll-over aware order
(so the head, the only event CleanUp ever evicts, is the lowest buffered sequence). -/
theorem C02_sorted_inv (maxSize timeout : Int) (ops : List Op) (hw : WinRun (init maxSize timeout) ops) :
    SortedKeys (keys (run (init maxSize timeout) ops).1.buf) :=
  sorted_run (s := init maxSize timeout) List.Pairwise.nil ops hw

/-- Delivery order. At every call of every in-window history, the events the call
delivers, in delivery order, followed by the events that stay buffered, form a list
sorted by the roll-over aware order: each delivered event is lower than every event
delivered after it in the same call and than every event still buffered. Hence an event
delivered later with a lower sequence cannot have been buffered at that moment: its first
record was pushed afterwards (a late arrival). Close is covered (it delivers the whole
buffer in this order). -/
theorem C02_order (maxSize timeout : Int) (pre : List Op) (op : Op) (post : List Op)
    (hw : WinRun (init maxSize timeout) (pre ++ op :: post)) :
    let s := (run (init maxSize timeout) pre).1
    SortedKeys (keys (evictedBy s op) ++ keys (step s op).1.buf) := by
  obtain ⟨hpre, hop, _⟩ := winRun_append.mp hw
  exact sorted_step (C02_sorted_inv maxSize timeout pre hpre) op hop

/-- Second clause of C02 at trace level (late arrival). In every in-window history, if some call
delivers an event with sequence number `a`, and a message `m` whose sequence number is ordered
before `a` is delivered by any later call, then `m` was pushed after the call that delivered `a`:
it was not buffered when `a` left, so the whole lower-numbered event is a late arrival. (Within
one call the delivered events are in ascending order by `C02_order`.) -/
theorem C02_late_arrival (maxSize timeout : Int) (pre : List Op) (op : Op) (post : List Op)
    (hw : WinRun (init maxSize timeout) (pre ++ op :: post))
    (a : Nat) (ha : a ∈ keys (evictedBy (run (init maxSize timeout) pre).1 op))
    (m : Msg) (hm : m ∈ delivered (run (step (run (init maxSize timeout) pre).1 op).1 post).2)
    (hlt : less m.seq a = true) :
    m ∈ pushed post := by
  have hord := C02_order maxSize timeout pre op post hw
  have hinv := (reach_step (reach_run maxSize timeout pre) op).inv
  generalize (run (init maxSize timeout) pre).1 = s at *
  -- delivered after the call, `m` was pushed after it or was buffered when it returned; the latter contradicts the order
  rcases List.mem_append.mp ((run_conserve _ post).subset (List.mem_append_left _ hm)) with h | h
  · exact h
  · obtain ⟨p, hp, hmp⟩ := List.mem_flatMap.mp h
    have := (List.pairwise_append.mp hord).2.2 a ha m.seq (hinv.uniform p hp m hmp ▸ mem_keys_of_mem hp)
    rw [less_asymm this] at hlt
    cases hlt

/-- non-vacuity of `C02_late_arrival`: 7 leaves at the third push, 6 arrives late and is delivered
afterwards; all its hypotheses hold on this history. -/
example :
    let pre : List Op := [.push ⟨1, 5, 1300⟩ 0 0, .push ⟨2, 7, 1300⟩ 0 0]
    let op : Op := .push ⟨3, 8, 1300⟩ 0 0
    let post : List Op := [.push ⟨4, 6, 1300⟩ 0 0]
    WinRun (init 1 3600) (pre ++ op :: post) ∧
    7 ∈ keys (evictedBy (run (init 1 3600) pre).1 op) ∧
    (⟨4, 6, 1300⟩ : Msg) ∈ delivered (run (step (run (init 1 3600) pre).1 op).1 post).2 ∧
    less 6 7 = true := by
  refine ⟨⟨⟨0, ?_⟩, ⟨0, ?_⟩, ⟨0, ?_⟩, ⟨0, ?_⟩, trivial⟩, ?_, ?_, ?_⟩ <;> decide +kernel

/-- non-vacuity: a window straddling 2^32-1 → 0, with disorder and overflow. -/
example : WinRun (init 1 3600)
    [.push ⟨1, 4294967295, 1300⟩ 0 0, .push ⟨2, 1, 1300⟩ 0 0, .push ⟨3, 0, 1300⟩ 0 0, .close] := by
  refine ⟨⟨4294967290, ?_⟩, ⟨4294967290, ?_⟩, ⟨4294967290, ?_⟩, trivial, trivial⟩ <;> decide +kernel

end LA.Reasm

/-! ### the code keeps nothing between calls that the model does not have -/

/-- Outside `init`, no function of the root package writes a package-level variable, hands the address of one to a function or calls a
sync/atomic method on one (regenerated list, see LA.Proofs.StateFacts): all state is in the object the model is given. -/
theorem C02_state_is_in_the_object : LA.StateFacts.ofPkg "" = [] := LA.StateFacts.ofPkg_root

/-- The model's message is the record as the Reassembler sees it — an identity, a sequence number and a record type —
and that is all the code looks at: in reassembler.go the only fields of `auparse.AuditMessage` selected are `RecordType`
and `Sequence`, and the only function outside the root package that is handed messages is the Stream's
`ReassemblyComplete` (`msgReads`, regenerated with go/types on every run). Grouping, order, completion, eviction and
loss accounting are therefore functions of (sequence, type) histories and of the clock, as in `Model.Reasm`; a
Reassembler that also consults a record's time stamp, text or parsed data — to guess at a restart of the kernel's
counter, to tell two events with one number apart — is outside that reading whatever it uses them for, and the
drivers' histories (which vary time stamps and bodies independently of the sequence numbers) search for the input on
which it shows. -/
theorem C02_reads_only_sequence_and_type :
    LA.Gen.ReasmFacts.msgReads = ["call:ReassemblyComplete", "field:RecordType", "field:Sequence"] := by rfl

/-- What the root package reads of the process it runs in is the clock (the Reassembler's deadlines, which the model is
given as readings), the process id (an input of SetPID) and the page size (the default receive buffer): `envReads`,
regenerated with go/types on every run, lists the package-level functions of os, os/user, os/exec, net, runtime,
math/rand, crypto/rand that are called, time.Now / Since / Until, file-system functions of path/filepath and process
queries of syscall. Nothing else of the machine — processors, environment variables, files, random numbers — can
influence what the Reassembler or the client does. -/
theorem C02_environment_is_clock_pid_pagesize : LA.StateFacts.envOf "" = LA.StateFacts.rootEnv := LA.StateFacts.envOf_root
