/-
The flag loop read as a list of flag occurrences, both ways: whatever flags.Parse accepts is a list of `Item`s applied in
order (`parseLoop_items`); a token list that reads as items is consumed and the items applied (`parseLoop_reads`); and each
item changes one slot of the flag set (`setFlag_some`). Every step of `parseLoop` takes at least one token off the list, so
fuel above the number of tokens, as `parseArgs` gives it, is never used up.
-/
import LA.Model.Flags
import LA.Proofs.OptionLemmas

namespace LA.Flags
open LA LA.Rule

/-- what one flag occurrence says: `-D` (with the boolean it carries) or a value flag with the
complete text of its value. -/
inductive Item where
  | del (b : Bool)
  | val (n : Nat) (v : Bytes)
deriving Repr, DecidableEq

/-- how a token list is read as a list of flag occurrences. There is no other way to consume a token, so a token list
that is read leaves no word unaccounted for. -/
inductive Reads : List Bytes → List Item → Prop
  | nil : Reads [] []
  | term (s : Bytes) : classify s = .term → Reads [s] []
  | delBare (s v : Bytes) (rest : List Bytes) (its : List Item) :
      classify s = .flag 68 false v → Reads rest its → Reads (s :: rest) (.del true :: its)
  | delVal (s v : Bytes) (b : Bool) (rest : List Bytes) (its : List Item) :
      classify s = .flag 68 true v → parseBool v = some b → Reads rest its → Reads (s :: rest) (.del b :: its)
  | inline (s v : Bytes) (n : Nat) (rest : List Bytes) (its : List Item) :
      classify s = .flag n true v → (n == 68) = false → valueFlags.contains n = true → Reads rest its →
      Reads (s :: rest) (.val n v :: its)
  | sep (s v0 v : Bytes) (n : Nat) (rest : List Bytes) (its : List Item) :
      classify s = .flag n false v0 → (n == 68) = false → valueFlags.contains n = true → Reads rest its →
      Reads (s :: v :: rest) (.val n v :: its)

def applyItem (fs : FS) : Item → Option FS
  | .del b => some { fs with deleteAll := b, visited := fs.visited ++ [68] }
  | .val n v => setFlag fs n v

def applyItems : List Item → FS → Option FS
  | [], fs => some fs
  | it :: its, fs => (applyItem fs it).bind (applyItems its)

theorem parseLoop_items (fuel : Nat) (args : List Bytes) (fs fs' : FS) (n : Nat)
    (h : parseLoop fuel args fs = some (fs', n)) :
    ∃ its, applyItems its fs = some fs' ∧ (n = 0 → Reads args its) := by
  induction fuel generalizing args fs with
  | zero => cases h
  | succ fuel ih =>
    -- one occurrence `it`, read from the front of `args`, before what the rest of the loop reads from `rest'`
    have step : ∀ {rest' : List Bytes} {fs1 : FS} (it : Item), applyItem fs it = some fs1 → parseLoop fuel rest' fs1 = some (fs', n) →
        (∀ its, Reads rest' its → Reads args (it :: its)) → ∃ its, applyItems its fs = some fs' ∧ (n = 0 → Reads args its) := by
      intro rest' fs1 it h1 h2 hr
      obtain ⟨its, ha, hr'⟩ := ih rest' fs1 h2
      exact ⟨it :: its, by simp only [applyItems, h1, Option.bind_some, ha], fun hn => hr its (hr' hn)⟩
    cases args with
    | nil => cases h; exact ⟨[], rfl, fun _ => .nil⟩
    | cons s rest =>
      unfold parseLoop at h
      cases hc : classify s with
      | nonflag => rw [hc] at h; cases h; exact ⟨[], rfl, fun hn => by cases hn⟩
      | term =>
        rw [hc] at h; cases h
        exact ⟨[], rfl, fun hl => by cases List.length_eq_zero_iff.mp hl; exact .term s hc⟩
      | bad => rw [hc] at h; cases h
      | flag k hasValue value =>
        rw [hc] at h
        simp only at h
        by_cases h68 : (k == 68) = true
        · cases eq_of_beq h68
          simp only [beq_self_eq_true, if_true] at h
          cases hasValue with
          | true =>
            simp only [if_true] at h
            cases hb : parseBool value with
            | none => rw [hb] at h; cases h
            | some b => rw [hb] at h; exact step (.del b) rfl h fun its => .delVal s value b rest its hc hb
          | false =>
            simp only [Bool.false_eq_true, if_false] at h
            exact step (.del true) rfl h fun its => .delBare s value rest its hc
        · have h68' : (k == 68) = false := Bool.eq_false_iff.mpr h68
          rw [if_neg h68] at h
          obtain ⟨hv, h⟩ := Option.ite_none_right_eq_some.mp h
          cases hasValue with
          | true =>
            simp only [if_true] at h
            obtain ⟨fs1, h1, h2⟩ := Option.bind_eq_some_iff.mp h
            exact step (.val k value) h1 h2 fun its => .inline s value k rest its hc h68' hv
          | false =>
            simp only [Bool.false_eq_true, if_false] at h
            cases rest with
            | nil => cases h
            | cons v rest' =>
              obtain ⟨fs1, h1, h2⟩ := Option.bind_eq_some_iff.mp h
              exact step (.val k v) h1 h2 fun its => .sep s value v k rest' its hc h68' hv

theorem parseLoop_reads {args : List Bytes} {its : List Item} (h : Reads args its) (fuel : Nat) (hf : args.length < fuel) (fs : FS) :
    parseLoop fuel args fs = (applyItems its fs).map (·, 0) := by
  -- a value flag hands its flag set on to the rest of the loop
  have hbind : ∀ (o : Option FS) (g : FS → Option (FS × Nat)) (its : List Item), (∀ fs, g fs = (applyItems its fs).map (·, 0)) →
      o.bind g = (o.bind (applyItems its)).map (·, 0) := by
    intro o g its hg
    cases o with
    | none => rfl
    | some fs1 => exact hg fs1
  induction h generalizing fuel fs
  -- the fuel is not used up in any case
  all_goals obtain ⟨f, rfl⟩ := Nat.exists_eq_succ_of_ne_zero (Nat.ne_of_gt (Nat.zero_lt_of_lt hf))
  case nil => rfl
  case term s hc => simp only [parseLoop, hc]; rfl
  case delBare s v rest its hc _ ih =>
    simp only [parseLoop, hc, beq_self_eq_true, if_true, Bool.false_eq_true, if_false]
    exact ih f (Nat.lt_of_succ_lt_succ hf) _
  case delVal s v b rest its hc hb _ ih =>
    simp only [parseLoop, hc, beq_self_eq_true, if_true, hb]
    exact ih f (Nat.lt_of_succ_lt_succ hf) _
  case inline s v n rest its hc h68 hv _ ih =>
    simp only [parseLoop, hc, h68, Bool.false_eq_true, if_false, hv, if_true]
    exact hbind _ _ its (ih f (Nat.lt_of_succ_lt_succ hf))
  case sep s v0 v n rest its hc h68 hv _ ih =>
    simp only [parseLoop, hc, h68, Bool.false_eq_true, if_false, hv, if_true]
    exact hbind _ _ its (ih f (Nat.lt_of_succ_lt_succ (Nat.lt_of_succ_lt hf)))

/-- the code of a permission letter (r, w, x, a): the four tests of `setPerms` (fileAccessTypeFlags.Set). -/
def permCode (b : Nat) : Option Nat :=
  if b == 114 then some 1 else if b == 119 then some 2 else if b == 120 then some 3 else if b == 97 then some 4 else none

theorem setPerms_eq (cur : List Nat) (v : Bytes) :
    setPerms cur v = v.foldl (fun acc b => acc.bind fun l => (permCode b).map fun c => l ++ [c]) (some cur) := by
  unfold setPerms
  congr 1
  funext acc b
  cases acc with
  | none => rfl
  | some l =>
    simp only [Option.bind_some, permCode, apply_ite (Option.map _), Option.map_some, Option.map_none]

theorem setPerms_spec (cur : List Nat) (v : Bytes) (p : List Nat) (h : setPerms cur v = some p) :
    p = cur ++ v.filterMap permCode ∧ ∀ b ∈ v, (permCode b).isSome = true := by
  rw [setPerms_eq] at h
  induction v generalizing cur with
  | nil => cases h; simp
  | cons b bs ih =>
    rw [List.foldl_cons, Option.bind_some] at h
    cases hc : permCode b with
    | none =>
      rw [hc, Option.map_none, foldl_none fun _ => rfl] at h
      cases h
    | some c =>
      rw [hc, Option.map_some] at h
      obtain ⟨e, hall⟩ := ih (cur ++ [c]) h
      exact ⟨by rw [e, List.filterMap_cons, hc, List.append_assoc]; rfl, List.forall_mem_cons.mpr ⟨by rw [hc]; rfl, hall⟩⟩

theorem setFlag_some {fs fs1 : FS} {n : Nat} {v : Bytes} (h : setFlag fs n v = some fs1) :
    (n = 97 ∧ fs.append = none ∧ ∃ x, setAdd none v = some x ∧
      fs1 = { fs with visited := fs.visited ++ [n], append := some x }) ∨
    (n = 65 ∧ fs.prepend = none ∧ ∃ x, setAdd none v = some x ∧
      fs1 = { fs with visited := fs.visited ++ [n], prepend := some x }) ∨
    (n = 67 ∧ ∃ m, matchComparison v = some m ∧
      fs1 = { fs with visited := fs.visited ++ [n], filters := fs.filters ++ [⟨1, m.1, m.2.1, m.2.2⟩] }) ∨
    (n = 70 ∧ ∃ m, matchFilter v = some m ∧
      fs1 = { fs with visited := fs.visited ++ [n], filters := fs.filters ++ [⟨2, m.1, m.2.1, m.2.2⟩] }) ∨
    (n = 83 ∧ fs1 = { fs with visited := fs.visited ++ [n], syscalls := fs.syscalls ++ splitList v }) ∨
    (n = 112 ∧ (∀ b ∈ v, (permCode b).isSome = true) ∧
      fs1 = { fs with visited := fs.visited ++ [n], perms := fs.perms ++ v.filterMap permCode }) ∨
    (n = 119 ∧ fs.pathSet = false ∧ fs1 = { fs with visited := fs.visited ++ [n], path := v, pathSet := true }) ∨
    (n = 107 ∧ fs1 = { fs with visited := fs.visited ++ [n], keys := fs.keys ++ splitList v }) := by
  -- addFlag.Set refuses a second value
  have hadd : ∀ (cur : Option (Bytes × Bytes)) (f : Bytes × Bytes → FS), (setAdd cur v).map f = some fs1 →
      cur = none ∧ ∃ x, setAdd none v = some x ∧ fs1 = f x := by
    intro cur f hv
    obtain ⟨x, hx, rfl⟩ := Option.map_eq_some_iff.mp hv
    cases cur with
    | none => exact ⟨rfl, x, hx, rfl⟩
    | some q => cases hx
  unfold setFlag at h
  simp only at h
  -- the letters in the order setFlag tests them: each test gives the disjunct of its own letter
  refine ite_some_or h (fun hn hv => ?a) fun _ h => ite_some_or h (fun hn hv => ?A) fun _ h => ite_some_or h (fun hn hv => ?C) fun _ h =>
    ite_some_or h (fun hn hv => ?F) fun _ h => ite_some_or h (fun hn hv => ?S) fun _ h => ite_some_or h (fun hn hv => ?p) fun _ h =>
    ite_some_or h (fun hn hv => ?w) fun _ h => ?k
  case a => exact ⟨eq_of_beq hn, hadd _ _ hv⟩
  case A => exact ⟨eq_of_beq hn, hadd _ _ hv⟩
  case C =>
    obtain ⟨m, hm, rfl⟩ := Option.map_eq_some_iff.mp hv
    exact ⟨eq_of_beq hn, m, hm, rfl⟩
  case F =>
    obtain ⟨m, hm, rfl⟩ := Option.map_eq_some_iff.mp hv
    exact ⟨eq_of_beq hn, m, hm, rfl⟩
  case S =>
    cases hv
    exact ⟨eq_of_beq hn, rfl⟩
  case p =>
    obtain ⟨x, hx, rfl⟩ := Option.map_eq_some_iff.mp hv
    obtain ⟨rfl, hall⟩ := setPerms_spec _ _ _ hx
    exact ⟨eq_of_beq hn, hall, rfl⟩
  case w =>
    -- a second -w is refused
    obtain ⟨hps, hv⟩ := Option.ite_none_left_eq_some.mp hv
    cases hv
    exact ⟨eq_of_beq hn, Bool.eq_false_iff.mpr hps, rfl⟩
  case k =>
    obtain ⟨hn, h⟩ := Option.ite_none_right_eq_some.mp h
    cases h
    exact ⟨eq_of_beq hn, rfl⟩

def Item.syscalls : Item → List Bytes
  | .val n v => if n == 83 then splitList v else []
  | _ => []

def Item.keys : Item → List Bytes
  | .val n v => if n == 107 then splitList v else []
  | _ => []

def Item.filters : Item → List FilterSpec
  | .val n v =>
    if n == 70 then (matchFilter v).toList.map (fun m => ⟨2, m.1, m.2.1, m.2.2⟩)
    else if n == 67 then (matchComparison v).toList.map (fun m => ⟨1, m.1, m.2.1, m.2.2⟩)
    else []
  | _ => []

def Item.perms : Item → List Nat
  | .val n v => if n == 112 then v.filterMap permCode else []
  | _ => []

/-- an accepted occurrence: a -F / -C value matched as a whole (so it contributes exactly one filter), every letter of a
-p value is a permission. -/
def Item.Ok : Item → Prop
  | .val n v =>
    (n = 70 → (matchFilter v).isSome = true) ∧ (n = 67 → (matchComparison v).isSome = true) ∧
    (n = 112 → ∀ b ∈ v, (permCode b).isSome = true)
  | _ => True

/-- number of -C / -F occurrences among the flags visited -/
def nFC (l : List Nat) : Nat := (l.filter (fun x => x == 67 || x == 70)).length

theorem applyItem_content {fs fs1 : FS} {it : Item} (h : applyItem fs it = some fs1) :
    fs1.syscalls = fs.syscalls ++ it.syscalls ∧ fs1.keys = fs.keys ++ it.keys ∧
    fs1.filters = fs.filters ++ it.filters ∧ fs1.perms = fs.perms ++ it.perms ∧ it.Ok ∧
    nFC fs1.visited = nFC fs.visited + it.filters.length := by
  cases it with
  | del b => cases h; simp [Item.syscalls, Item.keys, Item.filters, Item.perms, Item.Ok, nFC]
  | val n v =>
    rcases setFlag_some h with ⟨rfl, _, x, _, rfl⟩ | ⟨rfl, _, x, _, rfl⟩ | ⟨rfl, m, hm, rfl⟩ | ⟨rfl, m, hm, rfl⟩ | ⟨rfl, rfl⟩ |
      ⟨rfl, hall, rfl⟩ | ⟨rfl, _, rfl⟩ | ⟨rfl, rfl⟩
    -- -a, -A, -C, -F, -S, -p, -w, -k: the letter is a literal in every case, so the tests of `Item.syscalls` … `nFC` evaluate
    -- and each list is `fs`'s own or `fs`'s with the value appended; `Item.Ok` asks for `hm` (-C, -F) or, under its binder, `hall` (-p)
    all_goals simp +contextual [Item.syscalls, Item.keys, Item.filters, Item.perms, Item.Ok, nFC, *]

theorem applyItems_content (its : List Item) (fs fs' : FS) (h : applyItems its fs = some fs') :
    fs'.syscalls = fs.syscalls ++ its.flatMap Item.syscalls ∧ fs'.keys = fs.keys ++ its.flatMap Item.keys ∧
    fs'.filters = fs.filters ++ its.flatMap Item.filters ∧ fs'.perms = fs.perms ++ its.flatMap Item.perms ∧
    (∀ it ∈ its, it.Ok) ∧ nFC fs'.visited = nFC fs.visited + (its.flatMap Item.filters).length := by
  induction its generalizing fs with
  | nil => cases h; simp
  | cons it its ih =>
    simp only [applyItems] at h
    obtain ⟨fs1, h1, h2⟩ := Option.bind_eq_some_iff.mp h
    obtain ⟨a1, a2, a3, a4, a5, a6⟩ := applyItem_content h1
    obtain ⟨b1, b2, b3, b4, b5, b6⟩ := ih fs1 h2
    exact ⟨by simp [b1, a1], by simp [b2, a2], by simp [b3, a3], by simp [b4, a4], List.forall_mem_cons.mpr ⟨a5, b5⟩,
      by rw [b6, a6, List.flatMap_cons, List.length_append, Nat.add_assoc]⟩

/-- the value of a `-w` / `-a` / `-A` occurrence -/
def Item.wval : Item → Option Bytes
  | .val n v => if n == 119 then some v else none
  | _ => none
def Item.aval : Item → Option Bytes
  | .val n v => if n == 97 then some v else none
  | _ => none
def Item.pval : Item → Option Bytes
  | .val n v => if n == 65 then some v else none
  | _ => none

/-- the path of a flag set, once -w has set it -/
def pathSlot (fs : FS) : Option Bytes := if fs.pathSet then some fs.path else none

theorem applyItem_slots {fs fs1 : FS} {it : Item} (h : applyItem fs it = some fs1) :
    (match it.wval with
      | some v => pathSlot fs = none ∧ pathSlot fs1 = some v ∧ (pathSlot fs1).isSome = true
      | none => pathSlot fs1 = pathSlot fs) ∧
    (match it.aval with
      | some v => fs.append = none ∧ fs1.append = setAdd none v ∧ fs1.append.isSome = true
      | none => fs1.append = fs.append) ∧
    (match it.pval with
      | some v => fs.prepend = none ∧ fs1.prepend = setAdd none v ∧ fs1.prepend.isSome = true
      | none => fs1.prepend = fs.prepend) := by
  cases it with
  | del b => cases h; simp [Item.wval, Item.aval, Item.pval, pathSlot]
  | val n v =>
    rcases setFlag_some h with ⟨rfl, he, x, hx, rfl⟩ | ⟨rfl, he, x, hx, rfl⟩ | ⟨rfl, m, hm, rfl⟩ | ⟨rfl, m, hm, rfl⟩ | ⟨rfl, rfl⟩ |
      ⟨rfl, _, rfl⟩ | ⟨rfl, hps, rfl⟩ | ⟨rfl, rfl⟩
    -- the tests of `Item.wval`, `Item.aval`, `Item.pval` evaluate on the literal letter: -a, -A and -w (first, second, seventh
    -- case) have a value to show, where `he`, `hps` say that the slot was empty and `hx` what fills it; the others leave the slots alone
    all_goals simp [Item.wval, Item.aval, Item.pval, pathSlot, *]

/-- -w, -a and -A are single-valued: `slot` is the slot of the flag set, `val` the value of an occurrence of that flag, `g`
what fills the slot from it (`applyItem_slots` gives `hstep` for each of the three). -/
theorem applyItems_slot {β : Type} (slot : FS → Option β) (val : Item → Option Bytes) (g : Bytes → Option β)
    (hstep : ∀ fs it fs1, applyItem fs it = some fs1 →
      match val it with
      | some v => slot fs = none ∧ slot fs1 = g v ∧ (slot fs1).isSome = true
      | none => slot fs1 = slot fs)
    (its : List Item) (fs fs' : FS) (h : applyItems its fs = some fs') :
    ((slot fs).isSome = true → its.filterMap val = [] ∧ slot fs' = slot fs) ∧
    (slot fs = none → (its.filterMap val = [] ∧ slot fs' = none) ∨
      (∃ v, its.filterMap val = [v] ∧ slot fs' = g v ∧ (slot fs').isSome = true)) := by
  induction its generalizing fs with
  | nil => cases h; exact ⟨fun _ => ⟨rfl, rfl⟩, fun h0 => Or.inl ⟨rfl, h0⟩⟩
  | cons it its ih =>
    obtain ⟨fs1, h1, h2⟩ := Option.bind_eq_some_iff.mp h
    have hs := hstep fs it fs1 h1
    obtain ⟨i1, i2⟩ := ih fs1 h2
    cases hw : val it with
    | none =>
      rw [hw] at hs
      simp only [List.filterMap_cons, hw]
      rw [← hs]
      exact ⟨i1, i2⟩
    | some v =>
      rw [hw] at hs
      obtain ⟨hf, hp, hps⟩ := hs
      simp only [List.filterMap_cons, hw]
      refine ⟨fun ht => (by rw [hf] at ht; cases ht), fun _ => Or.inr ⟨v, ?_⟩⟩
      obtain ⟨e1, e2⟩ := i1 hps
      exact ⟨by rw [e1], by rw [e2, hp], by rw [e2]; exact hps⟩

end LA.Flags
