/-
What a cascade of tests returns, read off the cascade test by test: a property of whatever it returns holds if it holds of
what each branch returns (`ite_some_imp`; a last `none` returns nothing: `by nofun`); a cascade from keys to values is a table
(`ite_beq_some_imp`); where the outcomes are listed as a disjunction, each test contributes the disjunct of its own branch
(`ite_some_or`); a chain of guards that each answer `some` error is `none` iff no guard fires (`ite_some_eq_none`). Likewise
for a fold that hands `none` on (`foldl_none`, `foldl_option_induct`). A lone guard
`if c then none else x` or `if c then x else none` needs none of these: core's `Option.ite_none_left_eq_some` and
`Option.ite_none_right_eq_some` read it.
-/
namespace LA

theorem ite_some_imp {α : Type} {c : Prop} [Decidable c] {x y : Option α} {P : α → Prop}
    (hx : ∀ v, x = some v → P v) (hy : ∀ v, y = some v → P v) : ∀ v, (if c then x else y) = some v → P v := by
  split <;> assumption

/-- `elab_as_elim`: `P` is read off the goal by abstracting `k` and `v`, which `h` determines. -/
@[elab_as_elim] theorem ite_beq_some_imp {α β : Type} [BEq α] [LawfulBEq α] {k k0 : α} {b v : β} {y : Option β} {P : α → β → Prop}
    (h : (if (k == k0) = true then some b else y) = some v) (h0 : P k0 b) (hy : y = some v → P k v) : P k v := by
  split at h
  · cases h; exact eq_of_beq ‹_› ▸ h0
  · exact hy h

theorem ite_some_or {α : Type} {c : Prop} [Decidable c] {x y : Option α} {v : α} {A B : Prop}
    (h : (if c then x else y) = some v) (hx : c → x = some v → A) (hy : ¬ c → y = some v → B) : A ∨ B := by
  split at h
  · exact Or.inl (hx ‹_› h)
  · exact Or.inr (hy ‹_› h)

theorem ite_some_eq_none {α : Type} {c : Prop} [Decidable c] {x : α} {y : Option α} :
    (if c then some x else y) = none ↔ ¬ c ∧ y = none := by
  split <;> simp [*]

theorem foldl_none {α β : Type} {g : Option β → α → Option β} (hnone : ∀ a, g none a = none) (l : List α) :
    l.foldl g none = none :=
  List.foldlRecOn (motive := (· = none)) l g rfl fun _ hb a _ => hb ▸ hnone a

theorem foldl_option_induct {α β : Type} (P : β → Prop) (g : Option β → α → Option β) (hnone : ∀ a, g none a = none)
    (hg : ∀ b a b', P b → g (some b) a = some b' → P b') (l : List α) {o : Option β} (ho : ∀ b, o = some b → P b)
    {b : β} (h : l.foldl g o = some b) : P b := by
  refine List.foldlRecOn (motive := fun o => ∀ b, o = some b → P b) l g ho ?_ b h
  intro o ho a _ b' hb'
  cases o with
  | none => rw [hnone] at hb'; cases hb'
  | some b0 => exact hg b0 a b' (ho b0 rfl) hb'

end LA
