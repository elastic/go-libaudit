/-
The receive path of the client model (receive, tryRecv, getReply), read on a queue of the shape the properties
speak of: noise, then the reply (`Dialogue`); what that reply says to the request (`ackCheck`, `verdict`).  Then the two
phases every command is made of: `sendThen`, `ackThen`.
-/
import LA.Model.Client
import LA.Proofs.Netlink
import LA.Proofs.OptionLemmas

namespace LA.Client
open LA.Netlink

/-- the parts of the state that receiving never touches -/
structure Frame (s s' : St) : Prop where
  seq      : s'.seq = s.seq
  plans    : s'.plans = s.plans
  sent     : s'.sent = s.sent
  closes   : s'.closes = s.closes
  closeOk  : s'.closeOk = s.closeOk
  pending  : s'.pending = s.pending
  clearPID : s'.clearPID = s.clearPID
  once     : s'.once = s.once

theorem Frame.refl (s : St) : Frame s s := ⟨rfl, rfl, rfl, rfl, rfl, rfl, rfl, rfl⟩

theorem Frame.trans {a b c : St} (h1 : Frame a b) (h2 : Frame b c) : Frame a c :=
  ⟨h2.seq.trans h1.seq, h2.plans.trans h1.plans, h2.sent.trans h1.sent, h2.closes.trans h1.closes,
   h2.closeOk.trans h1.closeOk, h2.pending.trans h1.pending, h2.clearPID.trans h1.clearPID, h2.once.trans h1.once⟩

/-- `s'` is `s` after `k` more Receive calls that left `rest` on the queue -/
structure Consumed (s s' : St) (k : Nat) (rest : List Item) : Prop where
  frame : Frame s s'
  queue : s'.queue = rest
  recvs : s'.recvs = s.recvs + k

theorem Consumed.trans {a b c : St} {k l : Nat} {r1 r2 : List Item} (h1 : Consumed a b k r1) (h2 : Consumed b c l r2) :
    Consumed a c (k + l) r2 :=
  ⟨h1.frame.trans h2.frame, h2.queue, by rw [h2.recvs, h1.recvs]; omega⟩

theorem Consumed.update (s : St) (q : List Item) (k : Nat) (buf : Bytes) :
    Consumed s { s with queue := q, recvs := s.recvs + k, buf := buf } k q :=
  ⟨⟨rfl, rfl, rfl, rfl, rfl, rfl, rfl, rfl⟩, rfl, rfl⟩

theorem receive_consumed (s : St) :
    Consumed s (receive s).1 1 s.queue.tail ∧ ∀ m, (receive s).2 = .msgs m → s.queue ≠ [] := by
  unfold receive
  cases s.queue with
  | nil => exact ⟨Consumed.update s [] 1 s.buf, fun m hm => by simp at hm⟩
  | cons it q =>
    rw [List.tail_cons]
    cases it with
    | raw b => simp only; split <;> exact ⟨Consumed.update .., fun _ _ => List.cons_ne_nil _ _⟩
    | _ => exact ⟨Consumed.update .., fun _ _ => List.cons_ne_nil _ _⟩

theorem receive_recvs (s : St) : (receive s).1.recvs = s.recvs + 1 := (receive_consumed s).1.recvs

theorem tryRecv_consumes (n : Nat) (s : St) :
    Frame s (tryRecv n s).1 ∧ (tryRecv n s).1.queue.length ≤ s.queue.length ∧
    ∀ m, (tryRecv n s).2 = .msgs (some m) → (tryRecv n s).1.queue.length < s.queue.length := by
  induction n generalizing s with
  | zero => exact ⟨Frame.refl s, Nat.le_refl _, fun m h => by simp [tryRecv] at h⟩
  | succ n ih =>
    obtain ⟨hc, hne⟩ := receive_consumed s
    have hl : (receive s).1.queue.length ≤ s.queue.length := by rw [hc.queue, List.length_tail]; omega
    unfold tryRecv
    generalize receive s = x at hc hne hl ⊢
    split
    · exact ⟨hc.frame.trans (ih _).1, Nat.le_trans (ih _).2.1 hl, fun m hm => Nat.lt_of_lt_of_le ((ih _).2.2 m hm) hl⟩
    · refine ⟨hc.frame, hl, fun m hm => ?_⟩
      have := List.length_pos_iff.mpr (hne _ hm)
      rw [hc.queue, List.length_tail]
      omega

theorem tryRecv_not_transient (n : Nat) (s : St) (b : Bool) : (tryRecv n s).2 ≠ .transient b := by
  induction n generalizing s with
  | zero => simp [tryRecv]
  | succ n ih =>
    rw [tryRecv]
    cases receive s with
    | mk s' r =>
      cases r with
      | transient _ => exact ih s'
      | hard => nofun
      | msgs m => nofun

theorem getReplyF_consumes (seq f : Nat) (s : St) :
    Frame s (getReplyF seq f s).1 ∧ (getReplyF seq f s).1.queue.length ≤ s.queue.length := by
  induction f generalizing s with
  | zero => exact ⟨Frame.refl s, Nat.le_refl _⟩
  | succ f ih =>
    obtain ⟨hf, hl, _⟩ := tryRecv_consumes 10 s
    unfold getReplyF
    generalize tryRecv 10 s = x at hf hl ⊢
    -- the three results without a message end the loop; so does a message, unless it is an event to skip (`ih`)
    split
    · exact ⟨hf, hl⟩
    · exact ⟨hf, hl⟩
    · exact ⟨hf, hl⟩
    · split
      · exact ⟨hf.trans (ih _).1, Nat.le_trans (ih _).2 hl⟩
      · split <;> exact ⟨hf, hl⟩

/-- a name for the result of `getReply` and its frame: the form in which the loops around it are read -/
theorem getReply_result (seq : Nat) (s : St) : ∃ s1 r, getReply seq s = (s1, r) ∧ Frame s s1 :=
  ⟨(getReply seq s).1, (getReply seq s).2, rfl, (getReplyF_consumes ..).1⟩

theorem getReplyF_queue_le (seq f : Nat) (s : St) : (getReplyF seq f s).1.queue.length ≤ s.queue.length :=
  (getReplyF_consumes ..).2

/-- every iteration that goes on has consumed a queue item, so with more fuel than items the loop ends before the fuel does -/
theorem getReplyF_enough (seq f : Nat) (s : St) (h : s.queue.length < f) :
    (getReplyF seq f s).2 ≠ .error .fuel ∧ ∀ g, getReplyF seq (f + g) s = getReplyF seq f s := by
  induction f generalizing s with
  | zero => omega
  | succ f ih =>
    have e : ∀ g, f + 1 + g = (f + g) + 1 := by omega
    have hlt := (tryRecv_consumes 10 s).2.2
    simp only [e]
    unfold getReplyF
    generalize tryRecv 10 s = x at hlt ⊢
    -- the loop ends here, whatever the fuel, unless the message is an event to skip (`ih`: a queue item is gone)
    split
    · simp
    · simp
    · simp
    · split
      · exact ih _ (Nat.lt_of_lt_of_le (hlt _ rfl) (Nat.le_of_lt_succ h))
      · split <;> simp

theorem getReply_fuel (seq : Nat) (s : St) : (getReply seq s).2 ≠ .error .fuel :=
  (getReplyF_enough _ _ _ (Nat.lt_succ_self _)).1

theorem getReply_eq_of_fuel (seq : Nat) (s : St) (f : Nat) (h : s.queue.length < f) :
    getReply seq s = getReplyF seq f s := by
  have h1 : f = (s.queue.length + 1) + (f - (s.queue.length + 1)) := by omega
  rw [h1, (getReplyF_enough _ _ _ (Nat.lt_succ_self _)).2]
  rfl

theorem receive_transient {s : St} {t : Item} {q : List Item} (hq : s.queue = t :: q) (ht : t.transient = true) :
    ∃ b, receive s = ({ s with queue := q, recvs := s.recvs + 1 }, .transient b) := by
  unfold receive
  rw [hq]
  cases t with
  | eintr => exact ⟨false, rfl⟩
  | eagain => exact ⟨true, rfl⟩
  | _ => simp [Item.transient] at ht

theorem tryRecv_skip (ts : List Item) (hts : ∀ t ∈ ts, t.transient = true) (n : Nat)
    (s : St) (q : List Item) (hq : s.queue = ts ++ q) :
    tryRecv (ts.length + n) s = tryRecv n { s with queue := q, recvs := s.recvs + ts.length } := by
  induction ts generalizing s with
  | nil =>
    rw [List.length_nil, Nat.zero_add]
    congr 1
    cases s; simp only at hq; simp [hq]
  | cons t ts ih =>
    obtain ⟨b, hr⟩ := receive_transient (s := s) (t := t) (q := ts ++ q) (by simpa using hq) (hts t (List.mem_cons_self ..))
    rw [List.length_cons, Nat.add_right_comm, tryRecv, hr]
    simp only
    rw [ih (fun t ht => hts t (List.mem_cons_of_mem _ ht)) _ rfl]
    congr 2
    exact Nat.add_right_comm ..

theorem tryRecv_exhaust (ts : List Item) (hts : ∀ t ∈ ts, t.transient = true) (s : St) (q : List Item)
    (hq : s.queue = ts ++ q) :
    tryRecv ts.length s = ({ s with queue := q, recvs := s.recvs + ts.length }, .msgs none) :=
  tryRecv_skip ts hts 0 s q hq

theorem receive_raw {s : St} {b : Bytes} {q : List Item} (hq : s.queue = .raw b :: q) (hb : 16 ≤ b.length) :
    receive s = ({ s with queue := q, recvs := s.recvs + 1, buf := b ++ s.buf.drop b.length },
                 .msgs (some { hdr := Hdr.parse b, data := b.drop 16 })) := by
  unfold receive
  rw [hq]
  simp only [parseAudit_of_le hb]

theorem tryRecv_datagram (ts : List Item) (hts : ∀ t ∈ ts, t.transient = true) (hn : ts.length ≤ 9)
    (s : St) (b : Bytes) (hb : 16 ≤ b.length) (q : List Item) (hq : s.queue = ts ++ .raw b :: q) :
    tryRecv 10 s = ({ s with queue := q, recvs := s.recvs + (ts.length + 1), buf := b ++ s.buf.drop b.length },
                    .msgs (some { hdr := Hdr.parse b, data := b.drop 16 })) := by
  obtain ⟨k, hk⟩ : ∃ k, 10 = ts.length + (k + 1) := ⟨9 - ts.length, by omega⟩
  rw [hk, tryRecv_skip ts hts _ s _ hq, tryRecv,
    receive_raw (s := { s with queue := .raw b :: q, recvs := s.recvs + ts.length }) rfl hb]
  rfl

/-- an unsolicited record: a well-formed datagram whose sequence number is 0 -/
def IsEvent (b : Bytes) : Prop := 16 ≤ b.length ∧ (Hdr.parse b).seq = 0

/-- a run of transient failures no receive loop gives up on -/
def Retryable (ts : List Item) : Prop := (∀ t ∈ ts, t.transient = true) ∧ ts.length ≤ 9

/-- one piece of noise: up to nine transient failures, then an unsolicited record -/
structure Seg where
  ts : List Item
  ev : Bytes

def Seg.Ok (n : Seg) : Prop := Retryable n.ts ∧ IsEvent n.ev

def Seg.items (n : Seg) : List Item := n.ts ++ [.raw n.ev]

/-- the queue items of any number of such pieces -/
def noise (ns : List Seg) : List Item := ns.flatMap Seg.items

theorem getReplyF_seg (seq : Nat) (hseq : seq ≠ 0) (n : Seg) (hn : n.Ok) (s : St) (q : List Item)
    (hq : s.queue = n.items ++ q) (f : Nat) :
    getReplyF seq (f + 1) s =
      getReplyF seq f { s with queue := q, recvs := s.recvs + (n.ts.length + 1), buf := n.ev ++ s.buf.drop n.ev.length } := by
  obtain ⟨⟨ht, hl⟩, hb, h0⟩ := hn
  conv => lhs; unfold getReplyF
  rw [tryRecv_datagram n.ts ht hl s n.ev hb q (by simpa [Seg.items] using hq)]
  simp only [h0, true_and]
  rw [if_pos hseq]

theorem getReplyF_noise (seq : Nat) (hseq : seq ≠ 0) (ns : List Seg) (hns : ∀ n ∈ ns, n.Ok) (s : St) (q : List Item)
    (hq : s.queue = noise ns ++ q) :
    ∃ s', Consumed s s' (noise ns).length q ∧ ∀ f, getReplyF seq (f + ns.length) s = getReplyF seq f s' := by
  induction ns generalizing s with
  | nil =>
    refine ⟨s, ⟨Frame.refl s, by simpa [noise] using hq, by simp [noise]⟩, fun f => rfl⟩
  | cons n ns ih =>
    have hq' : s.queue = n.items ++ (noise ns ++ q) := by simpa [noise, List.append_assoc] using hq
    have hc1 := Consumed.update s (noise ns ++ q) (n.ts.length + 1) (n.ev ++ s.buf.drop n.ev.length)
    obtain ⟨s', hc, hf⟩ := ih (fun m hm => hns m (List.mem_cons_of_mem _ hm)) _ hc1.queue
    refine ⟨s', ?_, ?_⟩
    · have e : (noise (n :: ns)).length = n.ts.length + 1 + (noise ns).length := by
        simp only [noise, List.flatMap_cons, List.length_append, Seg.items, List.length_singleton]
      rw [e]; exact hc1.trans hc
    · intro f
      have : f + (n :: ns).length = (f + ns.length) + 1 := by simp; omega
      rw [this, getReplyF_seg seq hseq n (hns n (List.mem_cons_self ..)) s _ hq' (f + ns.length)]
      exact hf f

theorem getReply_noise (seq : Nat) (hseq : seq ≠ 0) (ns : List Seg) (hns : ∀ n ∈ ns, n.Ok) (s : St) (q : List Item)
    (hq : s.queue = noise ns ++ q) :
    ∃ s', Consumed s s' (noise ns).length q ∧ getReply seq s = getReplyF seq (s.queue.length + 1) s' := by
  obtain ⟨s', hc, hf⟩ := getReplyF_noise seq hseq ns hns s q hq
  exact ⟨s', hc, by rw [getReply_eq_of_fuel seq s (s.queue.length + 1 + ns.length) (by omega), hf]⟩

/-- what a request finds on the queue `q`: noise, a retryable run of failures, then a datagram `b` that is not an
unsolicited record (whether it is the request's own reply is for `replyOf` and `verdict` to say), then `rest` -/
structure Dialogue (q : List Item) (ns : List Seg) (ts : List Item) (b : Bytes) (rest : List Item) : Prop where
  q_eq  : q = noise ns ++ (ts ++ .raw b :: rest)
  ns_ok : ∀ n ∈ ns, n.Ok
  ts_ok : Retryable ts
  b_len : 16 ≤ b.length
  b_seq : (Hdr.parse b).seq ≠ 0

/-- for a queue written as one item list, the way `RuleMsg.items` and `AckMsg.items` have it -/
theorem Dialogue.of_items {q : List Item} {ns : List Seg} {ts : List Item} {b : Bytes} {rest : List Item} {own : Nat}
    (hq : q = noise ns ++ (ts ++ [.raw b]) ++ rest) (hns : ∀ n ∈ ns, n.Ok) (hts : Retryable ts) (hlen : 16 ≤ b.length)
    (hseq : (Hdr.parse b).seq = own) (hown : own ≠ 0) : Dialogue q ns ts b rest :=
  ⟨by rw [hq]; simp only [List.append_assoc, List.singleton_append], hns, hts, hlen, hseq ▸ hown⟩

/-- the number of Receive calls that read a dialogue up to `rest` -/
def Dialogue.cost (ns : List Seg) (ts : List Item) : Nat := (noise ns).length + ts.length + 1

/-- the result of waiting for the reply to `seq` -/
def replyOf (seq : Nat) (b : Bytes) : Except Err Msg :=
  if (Hdr.parse b).seq = seq then .ok { hdr := Hdr.parse b, data := b.drop 16 }
  else .error (.seqMismatch (Hdr.parse b).seq)

theorem getReply_dialogue (seq : Nat) (hseq : seq ≠ 0) (s : St) {ns : List Seg} {ts : List Item} {b : Bytes}
    {rest : List Item} (d : Dialogue s.queue ns ts b rest) :
    ∃ s1, Consumed s s1 (Dialogue.cost ns ts) rest ∧ getReply seq s = (s1, replyOf seq b) := by
  obtain ⟨s', hc, hg⟩ := getReply_noise seq hseq ns d.ns_ok s _ d.q_eq
  rw [Dialogue.cost, Nat.add_assoc]
  refine ⟨_, hc.trans (Consumed.update s' rest (ts.length + 1) (b ++ s'.buf.drop b.length)), ?_⟩
  rw [hg, getReplyF, tryRecv_datagram ts d.ts_ok.1 d.ts_ok.2 s' b d.b_len rest hc.queue]
  simp only [d.b_seq, false_and, if_false, replyOf]
  by_cases he : (Hdr.parse b).seq = seq <;> simp only [he, ne_eq, not_true_eq_false, not_false_eq_true, if_true, if_false]

/-- `checkAck` as a function of the raw datagram (`checkAck_parse`); `none` = NLMSG_ERROR carrying errno 0 -/
def ackCheck (b : Bytes) : Option Err :=
  if (Hdr.parse b).typ ≠ NLMSG_ERROR then some (.ackType (Hdr.parse b).typ)
  else if b.length < 20 then some .short
  else if rd32 b 16 = 0 then none
  else some (.errno (errnoOf (rd32 b 16)))

/-- the verdict datagram `b` carries for request `own` (`none` = acknowledged with errno 0) -/
def verdict (own : Nat) (b : Bytes) : Option Err :=
  if (Hdr.parse b).seq ≠ own then some (.seqMismatch (Hdr.parse b).seq) else ackCheck b

theorem checkAck_parse (b : Bytes) (hb : 16 ≤ b.length) :
    checkAck { hdr := Hdr.parse b, data := b.drop 16 } = ackCheck b := by
  unfold checkAck ackCheck
  simp only [parseNetlinkError_drop b hb]
  by_cases h1 : (Hdr.parse b).typ ≠ NLMSG_ERROR
  · rw [if_pos h1, if_pos h1]
  · rw [if_neg h1, if_neg h1]
    by_cases h2 : b.length < 20
    · simp only [h2, if_true]
    · by_cases h3 : rd32 b 16 = 0
      · simp only [h2, h3, if_false, if_true]
      · simp only [h2, h3, if_false]

/-- the verdict is a chain of guards, each answering an error: it is `none` iff none of them fires -/
theorem verdict_none_iff (own : Nat) (b : Bytes) :
    verdict own b = none ↔
      (Hdr.parse b).seq = own ∧ (Hdr.parse b).typ = NLMSG_ERROR ∧ 20 ≤ b.length ∧ rd32 b 16 = 0 := by
  simp only [verdict, ackCheck, ite_some_eq_none, ite_eq_left_iff, reduceCtorEq, imp_false, Decidable.not_not, Nat.not_lt, ne_eq]

theorem verdict_errno (own : Nat) (b : Bytes) (h0 : (Hdr.parse b).seq = own) (h1 : (Hdr.parse b).typ = NLMSG_ERROR)
    (h2 : 20 ≤ b.length) (h3 : rd32 b 16 ≠ 0) : verdict own b = some (.errno (errnoOf (rd32 b 16))) := by
  have : ¬ b.length < 20 := by omega
  simp [verdict, ackCheck, h0, h1, this, h3]

theorem verdict_foreign (own : Nat) (b : Bytes) (h0 : (Hdr.parse b).seq ≠ own) :
    verdict own b = some (.seqMismatch (Hdr.parse b).seq) := by
  simp [verdict, h0]

theorem verdict_own {p : Nat} {b : Bytes} (h : (Hdr.parse b).seq = p) : verdict p b = ackCheck b := by
  simp [verdict, h]

/-- the common middle of AddRule, DeleteRule, `set`, GetStatus and GetRules: the wait for the acknowledgement of request `q`
and its check (`fail` makes the command's error result) -/
def ackThen {α : Type} (fail : Err → α) (q : Nat) (s1 : St) (k : St → St × α) : St × α :=
  match getReply q s1 with
  | (s2, .error e) => (s2, fail e)
  | (s2, .ok ack) =>
    match checkAck ack with
    | some e => (s2, fail e)
    | none => k s2

theorem ackThen_dialogue {α : Type} (fail : Err → α) (k : St → St × α) (own : Nat) (hown : own ≠ 0) (s1 : St)
    {ns : List Seg} {ts : List Item} {b : Bytes} {rest : List Item} (d : Dialogue s1.queue ns ts b rest) :
    ∃ s2, Consumed s1 s2 (Dialogue.cost ns ts) rest ∧
      ackThen fail own s1 k = match verdict own b with
        | some e => (s2, fail e)
        | none => k s2 := by
  obtain ⟨s2, hc, hg⟩ := getReply_dialogue own hown s1 d
  refine ⟨s2, hc, ?_⟩
  rw [ackThen, hg, replyOf, verdict]
  by_cases he : (Hdr.parse b).seq = own
  · rw [if_pos he, if_neg (by simpa using he)]
    simp only [checkAck_parse b d.b_len]
  · rw [if_neg he, if_pos (by simpa using he)]

theorem ackThen_ind {α : Type} (fail : Err → α) (q : Nat) (s1 : St) (k : St → St × α) (P : St × α → Prop)
    (hs : ∀ s2 e, Frame s1 s2 → P (s2, fail e)) (hk : ∀ s2, Frame s1 s2 → P (k s2)) : P (ackThen fail q s1 k) := by
  obtain ⟨s2, r, hg, hf⟩ := getReply_result q s1
  rw [ackThen, hg]
  cases r with
  | error e => exact hs _ _ hf
  | ok ack =>
    simp only
    cases checkAck ack with
    | none => exact hk _ hf
    | some e => exact hs _ _ hf

theorem ackThen_frame {α : Type} (fail : Err → α) (q : Nat) (s1 : St) (k : St → St × α) (hk : ∀ s2, Frame s2 (k s2).1) :
    Frame s1 (ackThen fail q s1 k).1 :=
  ackThen_ind _ _ _ _ (fun x => Frame s1 x.1) (fun _ _ h => h) fun s2 h => h.trans (hk s2)

/-- the shape of AddRule, DeleteRule and `set` in WaitForReply mode after their Send -/
def awaitAck (q : Nat) (s1 : St) : St × Out := ackThen .fail q s1 fun s2 => (s2, .ok .none)

theorem awaitAck_frame (q : Nat) (s : St) : Frame s (awaitAck q s).1 := ackThen_frame _ _ _ _ Frame.refl

/-- a command begins with a Send: `x` is what it returned, `k` goes on with the request's sequence number -/
def sendThen {α : Type} (fail : Err → α) (x : St × Nat × Bool) (k : Nat → St → St × α) : St × α :=
  if x.2.2 then k x.2.1 x.1 else (x.1, fail .send)

theorem sendThen_eq {α : Type} (fail : Err → α) (x : St × Nat × Bool) (k : Nat → St → St × α) :
    (match x with
      | (s1, _, false) => (s1, fail .send)
      | (s1, q, true) => k q s1) = sendThen fail x k := by
  obtain ⟨s1, q, ok⟩ := x
  cases ok <;> rfl

theorem sendThen_ind {α : Type} (fail : Err → α) (x : St × Nat × Bool) (k : Nat → St → St × α) (P : St × α → Prop)
    (h0 : P (x.1, fail .send)) (hk : P (k x.2.1 x.1)) : P (sendThen fail x k) := by
  unfold sendThen
  split <;> assumption

end LA.Client
