/-
The record loop of `normalizeCompound`, one description per step.  Apart from `Paths` and
`Process.Args` a step only adds entries to Data, appends warnings and sets the addresses
(`AddsData`); so the places where a pair can be kept for good (`Settled`) are never touched
again (`SFrame`, `Settled.mono`).
-/
import LA.Proofs.CoalesceKV

namespace LA.Coalesce

/-- frame of a stretch of record steps.  `keepItems` stands for "no SYSCALL step in between"
(which would delete `items` from Data), `keepArgs` for "no EXECVE step in between" (which would
replace `Process.Args`). -/
structure SFrame (keepItems keepArgs : Prop) (e e' : Event) : Prop where
  ids : e'.ids = e.ids
  selinux : e'.selinux = e.selinux
  result : e'.result = e.result
  session : e'.session = e.session
  ts : e'.ts = e.ts
  seq : e'.seq = e.seq
  typ : e'.typ = e.typ
  cat : e'.cat = e.cat
  tags : e'.tags = e.tags
  ecsCategory : e'.ecsCategory = e.ecsCategory
  ecsType : e'.ecsType = e.ecsType
  paths : ∃ extra, e'.paths = e.paths ++ extra
  warn : ∃ extra, e'.warnings = e.warnings ++ extra
  data : ∀ κ v, (κ ≠ kItems ∨ keepItems) → lookup κ e.data = some v → lookup κ e'.data = some v
  args : keepArgs → e'.args = e.args

theorem SFrame.trans {a b a' b' : Prop} {e1 e2 e3 : Event} (h1 : SFrame a b e1 e2) (h2 : SFrame a' b' e2 e3) :
    SFrame (a ∧ a') (b ∧ b') e1 e3 := by
  refine ⟨h2.ids.trans h1.ids, h2.selinux.trans h1.selinux, h2.result.trans h1.result,
    h2.session.trans h1.session, h2.ts.trans h1.ts, h2.seq.trans h1.seq, h2.typ.trans h1.typ,
    h2.cat.trans h1.cat, h2.tags.trans h1.tags, h2.ecsCategory.trans h1.ecsCategory,
    h2.ecsType.trans h1.ecsType, extends_trans h1.paths h2.paths, extends_trans h1.warn h2.warn, ?_, ?_⟩
  · intro κ v hk h
    apply h2.data κ v (hk.imp id And.right)
    exact h1.data κ v (hk.imp id And.left) h
  · intro h; rw [h2.args h.2, h1.args h.1]

theorem SFrame.weaken {a b a' b' : Prop} {e e' : Event} (h : SFrame a b e e') (ha : a' → a) (hb : b' → b) :
    SFrame a' b' e e' :=
  { h with data := fun κ v hk hl => h.data κ v (hk.imp id ha) hl, args := fun hb' => h.args (hb hb') }

/-- what a record step does apart from `Paths` and `Process.Args`; no entry of Data is removed
or changed. -/
def AddsData (e e' : Event) : Prop :=
  ∃ (d : KV) (w : List Warn) (s t : Option Addr) (n : Option Nat),
    (∀ κ x, lookup κ e.data = some x → lookup κ d = some x) ∧
    e' = { e with data := d, warnings := e.warnings ++ w, source := s, dest := t, net := n }

theorem AddsData.refl (e : Event) : AddsData e e :=
  ⟨e.data, [], e.source, e.dest, e.net, fun _ _ h => h, by rw [List.append_nil]⟩

theorem AddsData.trans {a b c : Event} (h1 : AddsData a b) (h2 : AddsData b c) : AddsData a c := by
  obtain ⟨d1, w1, _, _, _, m1, rfl⟩ := h1
  obtain ⟨d2, w2, s, t, n, m2, rfl⟩ := h2
  exact ⟨d2, w1 ++ w2, s, t, n, fun κ x h => m2 κ x (m1 κ x h), by simp only [List.append_assoc]⟩

theorem AddsData.sframe (a b : Prop) {e e' : Event} (h : AddsData e e') : SFrame a b e e' := by
  obtain ⟨_, w, _, _, _, m, rfl⟩ := h
  exact ⟨rfl, rfl, rfl, rfl, rfl, rfl, rfl, rfl, rfl, rfl, rfl, ⟨[], (List.append_nil _).symm⟩, ⟨w, rfl⟩,
    fun κ x _ => m κ x, fun _ => rfl⟩

theorem SFrame.refl (a b : Prop) (e : Event) : SFrame a b e e := (AddsData.refl e).sframe a b

theorem AddsData.paths {e e' : Event} (h : AddsData e e') : e'.paths = e.paths := by
  obtain ⟨_, _, _, _, _, _, rfl⟩ := h
  rfl

theorem AddsData.set_addr {e e1 : Event} (h : AddsData e e1) (s t : Option Addr) (n : Option Nat) :
    AddsData e { e1 with source := s, dest := t, net := n } := by
  obtain ⟨d, w, _, _, _, m, rfl⟩ := h
  exact ⟨d, w, s, t, n, m, rfl⟩

theorem mem_warn (e : Event) (w : Warn) : w ∈ (warn e w).warnings :=
  List.mem_append_right _ (List.mem_singleton_self w)

theorem warn_adds (e : Event) (w : Warn) : AddsData e (warn e w) :=
  ⟨e.data, [w], e.source, e.dest, e.net, fun _ _ h => h, rfl⟩

theorem addField_adds (typ : Nat) (e : Event) (kv : Bytes × Bytes) : AddsData e (addField typ e kv) := by
  unfold addField
  split
  · exact warn_adds e _
  · exact ⟨e.data ++ [kv], [], e.source, e.dest, e.net, fun _ _ h => by rw [lookup_append, h]; rfl, by rw [List.append_nil]⟩

theorem foldl_adds {α : Type} (f : Event → α → Event) (hf : ∀ e x, AddsData e (f e x)) (l : List α) (e : Event) :
    AddsData e (l.foldl f e) :=
  foldl_rel AddsData AddsData.refl AddsData.trans f hf l e

theorem addOther_adds (v : View) (e : Event) : AddsData e (addOther v e) := by
  unfold addOther
  split
  · exact warn_adds e _
  · exact foldl_adds _ (addField_adds v.typ) _ e

theorem addSockaddr_cases (v : View) (e : Event) :
    (∃ w, (v.data = none ∨ w = .sockaddrNoSyscall) ∧ addSockaddr v e = warn e w) ∨
    ∃ d s t n, v.data = some d ∧ addSockaddr v e =
      { d.foldl (fun e kv => addField v.typ e (kSocket_ ++ kv.1, kv.2)) e with source := s, dest := t, net := n } := by
  unfold addSockaddr
  cases v.data with
  | none => exact Or.inl ⟨_, Or.inl rfl, rfl⟩
  | some d =>
    cases lookup kSyscall e.data with
    | none => exact Or.inl ⟨_, Or.inr rfl, rfl⟩
    | some sc =>
      refine Or.inr ⟨d, ?_⟩
      dsimp only
      -- the loop's result as a variable: the record updates below mention it once per field
      generalize d.foldl _ e = e1
      by_cases h1 : sc ∈ incomingSyscalls
      · exact ⟨_, _, _, rfl, if_pos h1⟩
      by_cases h2 : sc ∈ outgoingSyscalls
      · exact ⟨_, _, _, rfl, (if_neg h1).trans (if_pos h2)⟩
      · exact ⟨_, _, _, rfl, (if_neg h1).trans (if_neg h2)⟩

theorem addSockaddr_adds (v : View) (e : Event) : AddsData e (addSockaddr v e) := by
  rcases addSockaddr_cases v e with ⟨w, _, h⟩ | ⟨d, s, t, n, _, h⟩ <;> rw [h]
  · exact warn_adds e w
  · exact (foldl_adds _ (fun e kv => addField_adds v.typ e _) _ e).set_addr ..

/-- the warnings of `addExecveRecord` about `argc` and the arguments. -/
inductive ExecveWarn : Warn → Prop
  | noArgc : ExecveWarn .noArgc
  | badArgc : ExecveWarn .badArgc
  | noArg (κ : Bytes) : ExecveWarn (.noArg κ)

theorem addExecve_cases (v : View) (e : Event) :
    (∃ e1 w, AddsData e e1 ∧ (v.data = none ∨ ExecveWarn w) ∧ addExecve v e = warn e1 w) ∨
    ∃ d argc n as, v.data = some d ∧ lookup kArgc d = some argc ∧ parseUint 10 32 argc = some n ∧
      collectArgs d n 0 = .ok as ∧ addExecve v e = { addField v.typ e (kArgc, argc) with args := as } := by
  unfold addExecve
  cases v.data with
  | none => exact Or.inl ⟨e, _, AddsData.refl e, Or.inl rfl, rfl⟩
  | some d =>
    dsimp only
    cases hargc : lookup kArgc d with
    | none => exact Or.inl ⟨e, _, AddsData.refl e, Or.inr .noArgc, rfl⟩
    | some argc =>
      dsimp only
      cases hparse : parseUint 10 32 argc with
      | none => exact Or.inl ⟨_, _, addField_adds .., Or.inr .badArgc, rfl⟩
      | some n =>
        dsimp only
        cases has : collectArgs d n 0 with
        | error κ => exact Or.inl ⟨_, _, addField_adds .., Or.inr (.noArg κ), rfl⟩
        | ok as => exact Or.inr ⟨d, argc, n, as, rfl, hargc, hparse, has, rfl⟩

def IsOther (typ : Nat) : Prop := typ ≠ SYSCALL ∧ typ ≠ PATH ∧ typ ≠ SOCKADDR ∧ typ ≠ EXECVE

theorem step_cases (e : Event) (m : View) :
    (m.typ = SYSCALL ∧ step e m = { e with data := erase kItems e.data }) ∨
    (m.typ = PATH ∧ step e m = addPath m e) ∨ (m.typ = SOCKADDR ∧ step e m = addSockaddr m e) ∨
    (m.typ = EXECVE ∧ step e m = addExecve m e) ∨ (IsOther m.typ ∧ step e m = addOther m e) := by
  unfold step
  by_cases h1 : m.typ = SYSCALL
  · exact Or.inl ⟨h1, if_pos h1⟩
  rw [if_neg h1]
  by_cases h2 : m.typ = PATH
  · exact Or.inr (Or.inl ⟨h2, if_pos h2⟩)
  rw [if_neg h2]
  by_cases h3 : m.typ = SOCKADDR
  · exact Or.inr (Or.inr (Or.inl ⟨h3, if_pos h3⟩))
  rw [if_neg h3]
  by_cases h4 : m.typ = EXECVE
  · exact Or.inr (Or.inr (Or.inr (Or.inl ⟨h4, if_pos h4⟩)))
  · exact Or.inr (Or.inr (Or.inr (Or.inr ⟨⟨h1, h2, h3, h4⟩, if_neg h4⟩)))

/-- every step but three is `AddsData` (`hadds`): SYSCALL deletes `items`, PATH appends to Paths,
a successful EXECVE sets `Process.Args`. -/
theorem step_spec (e : Event) (m : View) :
    SFrame (m.typ ≠ SYSCALL) (m.typ ≠ EXECVE) e (step e m) ∧
    (step e m).paths = e.paths ++ (if m.typ = PATH then m.data.toList else []) := by
  have hadds : ∀ {e' : Event}, m.typ ≠ PATH → AddsData e e' →
      SFrame (m.typ ≠ SYSCALL) (m.typ ≠ EXECVE) e e' ∧
      e'.paths = e.paths ++ (if m.typ = PATH then m.data.toList else []) :=
    fun hp h => ⟨h.sframe .., by rw [h.paths, if_neg hp, List.append_nil]⟩
  have hr := SFrame.refl (m.typ ≠ SYSCALL) (m.typ ≠ EXECVE) e
  rcases step_cases e m with ⟨h, hs⟩ | ⟨h, hs⟩ | ⟨h, hs⟩ | ⟨h, hs⟩ | ⟨h, hs⟩ <;> rw [hs]
  · refine ⟨{ hr with data := ?_ }, by rw [h, if_neg (by decide), List.append_nil]⟩
    rintro κ v (hk | hk) hl
    · rwa [lookup_erase_ne _ hk]
    · exact absurd h hk
  · unfold addPath
    rw [if_pos h]
    cases m.data with
    | none => exact ⟨(warn_adds e _).sframe .., by simp [warn]⟩
    | some d => exact ⟨{ hr with paths := ⟨[d], rfl⟩ }, rfl⟩
  · exact hadds (by rw [h]; decide) (addSockaddr_adds m e)
  · rcases addExecve_cases m e with ⟨e1, w, h1, _, h'⟩ | ⟨_, argc, _, as, _, _, _, _, h'⟩ <;> rw [h']
    · exact hadds (by rw [h]; decide) (h1.trans (warn_adds e1 w))
    · have hf := hadds (by rw [h]; decide) (addField_adds m.typ e (kArgc, argc))
      exact ⟨{ hf.1 with args := fun h' => absurd h h' }, hf.2⟩
  · exact hadds h.2.1 (addOther_adds m e)

theorem foldl_step_sframe (rest : List View) (e : Event) :
    SFrame (∀ m ∈ rest, m.typ ≠ SYSCALL) (∀ m ∈ rest, m.typ ≠ EXECVE) e (rest.foldl step e) := by
  induction rest generalizing e with
  | nil => exact SFrame.refl _ _ e
  | cons m rest ih =>
    exact ((step_spec e m).1.trans (ih (step e m))).weaken List.forall_mem_cons.mp List.forall_mem_cons.mp

theorem foldl_step_paths (recs : List View) (e : Event) :
    (recs.foldl step e).paths =
      e.paths ++ (recs.filter (fun m => decide (m.typ = PATH))).flatMap (fun m => m.data.toList) := by
  induction recs generalizing e with
  | nil => simp
  | cons m tl ih =>
    simp only [List.foldl_cons, ih, (step_spec _ _).2, List.filter_cons]
    by_cases h : m.typ = PATH <;> simp [h]

/-- a warning that names record type `typ` and key `k` (or the record as a whole). -/
def Warned (e : Event) (typ : Nat) (k : Bytes) : Prop :=
  Warn.dupKey k typ ∈ e.warnings ∨ Warn.dupKey (kSocket_ ++ k) typ ∈ e.warnings ∨
  (typ = SOCKADDR ∧ Warn.sockaddrNoSyscall ∈ e.warnings) ∨
  (typ = EXECVE ∧ (Warn.noArgc ∈ e.warnings ∨ Warn.badArgc ∈ e.warnings ∨ ∃ κ, Warn.noArg κ ∈ e.warnings))

/-- places that no later step of `CoalesceMessages` touches. -/
def StableLoc (e : Event) (k v : Bytes) : Prop :=
  lookup k e.ids = some v ∨ (hasPrefix kSubj_ k = true ∧ lookup (k.drop 5) e.selinux = some v) ∨
  (k = kResult ∧ e.result = v) ∨ (k = kSes ∧ e.session = v) ∨ (∃ p ∈ e.paths, (k, v) ∈ p)

def ArgsLoc (e : Event) (k v : Bytes) : Prop := ∃ i, k = argKey i ∧ e.args[i]? = some v

section
variable {e : Event} {typ : Nat} {k v : Bytes}

theorem Warned.dup (h : Warn.dupKey k typ ∈ e.warnings) : Warned e typ k := Or.inl h

theorem Warned.dupSocket (h : Warn.dupKey (kSocket_ ++ k) typ ∈ e.warnings) : Warned e typ k := Or.inr (Or.inl h)

theorem Warned.sockaddr (ht : typ = SOCKADDR) (h : Warn.sockaddrNoSyscall ∈ e.warnings) : Warned e typ k :=
  Or.inr (Or.inr (Or.inl ⟨ht, h⟩))

theorem Warned.execve (ht : typ = EXECVE) {w : Warn} (hw : ExecveWarn w) (h : w ∈ e.warnings) :
    Warned e typ k := by
  refine Or.inr (Or.inr (Or.inr ⟨ht, ?_⟩))
  cases hw with
  | noArgc => exact Or.inl h
  | badArgc => exact Or.inr (Or.inl h)
  | noArg κ => exact Or.inr (Or.inr ⟨κ, h⟩)

theorem StableLoc.ofIds (h : lookup k e.ids = some v) : StableLoc e k v := Or.inl h

theorem StableLoc.ofSelinux (hp : hasPrefix kSubj_ k = true) (h : lookup (k.drop 5) e.selinux = some v) :
    StableLoc e k v := Or.inr (Or.inl ⟨hp, h⟩)

theorem StableLoc.ofResult (hk : k = kResult) (h : e.result = v) : StableLoc e k v :=
  Or.inr (Or.inr (Or.inl ⟨hk, h⟩))

theorem StableLoc.ofSession (hk : k = kSes) (h : e.session = v) : StableLoc e k v :=
  Or.inr (Or.inr (Or.inr (Or.inl ⟨hk, h⟩)))

theorem StableLoc.ofPath {p : KV} (hp : p ∈ e.paths) (h : (k, v) ∈ p) : StableLoc e k v :=
  Or.inr (Or.inr (Or.inr (Or.inr ⟨p, hp, h⟩)))

end

theorem Warned.of_warnings {e e' : Event} (h : ∀ w ∈ e.warnings, w ∈ e'.warnings) {typ : Nat} {k : Bytes} :
    Warned e typ k → Warned e' typ k :=
  Or.imp (h _) (Or.imp (h _) (Or.imp (And.imp_right (h _))
    (And.imp_right (Or.imp (h _) (Or.imp (h _) (Exists.imp fun _ => h _))))))

theorem StableLoc.of_fields {e e' : Event} (h1 : e'.ids = e.ids) (h2 : e'.selinux = e.selinux)
    (h3 : e'.result = e.result) (h4 : e'.session = e.session) (h5 : ∀ p ∈ e.paths, p ∈ e'.paths) {k v : Bytes} :
    StableLoc e k v → StableLoc e' k v := by
  unfold StableLoc
  rw [h1, h2, h3, h4]
  exact Or.imp id (Or.imp id (Or.imp id (Or.imp id fun ⟨p, hp, h⟩ => ⟨p, h5 p hp, h⟩)))

theorem ArgsLoc.of_args {e e' : Event} (h : e'.args = e.args) {k v : Bytes} : ArgsLoc e k v → ArgsLoc e' k v :=
  fun ⟨i, hk, hi⟩ => ⟨i, hk, h ▸ hi⟩

/-- kept for good, whatever the records that follow.  Not so `Process.Args` (`ArgsLoc`), which a
second EXECVE record replaces, and `items` in Data, which a SYSCALL record deletes. -/
inductive Settled (e : Event) (typ : Nat) (k v : Bytes) : Prop
  | stable (h : StableLoc e k v)
  | warned (h : Warned e typ k)
  | data (hk : k ≠ kItems) (h : lookup k e.data = some v)
  | socketData (h : lookup (kSocket_ ++ k) e.data = some v)

theorem Settled.mono {a b : Prop} {e e' : Event} (hf : SFrame a b e e') {typ : Nat} {k v : Bytes} :
    Settled e typ k v → Settled e' typ k v
  | .stable h => .stable (h.of_fields hf.ids hf.selinux hf.result hf.session (mem_of_extends hf.paths))
  | .warned h => .warned (h.of_warnings (mem_of_extends hf.warn))
  | .data hk h => .data hk (hf.data k v (Or.inl hk) h)
  | .socketData h => .socketData (hf.data _ v (Or.inl (by simp [kSocket_, kItems])) h)

/-- where the record loop as a whole leaves a pair of one of its records, given at most one
SYSCALL and one EXECVE record (`fold_kept`). -/
inductive Held (e : Event) (typ : Nat) (k v : Bytes) : Prop
  | settled (h : Settled e typ k v)
  | args (h : ArgsLoc e k v)
  | data (h : lookup k e.data = some v)

end LA.Coalesce
