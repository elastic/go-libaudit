/-
C18 — Netlink transport frames requests correctly and trusts only the kernel.

What is proved of the model (Model/Netlink.lean) for all inputs; the model is tied to netlink.go
on every run by the kernel's verbatim echo on a real NETLINK_ROUTE socket, by datagrams from a
second NETLINK_USERSOCK socket, by N goroutines x M Sends, and by the simulated kernel handing
raw bytes to the library's own parseNetlinkAuditMessage (harness/cmd/drive/client*.go).

Partial by nature (named so in the manifest): the atomicity of `atomic.AddUint32`, the Go memory
model and the kernel's side of netlink are assumptions of the interleaving model, not theorems.
-/
import LA.Proofs.Uapi
import LA.Proofs.StateObligations.Root

namespace LA.Netlink
open LA.Spec

/-- Framing: for every header and payload that fit their Go types, the serialized message is
16 + |payload| bytes; decoded at the offsets of `struct nlmsghdr` it carries that length, the
caller's type and flags, the sequence and port id given; the payload follows verbatim. -/
theorem C18_serialize (m : Msg) (hw : m.hdr.WF) (hl : 16 + m.data.length < 4294967296) :
    (serialize m).length = 16 + m.data.length ∧
    Uapi.decode Uapi.nlmsghdr (serialize m) =
      [("nlmsg_len", 16 + m.data.length), ("nlmsg_type", m.hdr.typ), ("nlmsg_flags", m.hdr.flags),
       ("nlmsg_seq", m.hdr.seq), ("nlmsg_pid", m.hdr.pid)] ∧
    (serialize m).drop 16 = m.data := by
  refine ⟨serialize_length m, ?_, serialize_drop m⟩
  rw [decode_nlmsghdr, Hdr.parse_serialize m hw hl]

/-- parse ∘ serialize = id (up to the length field, which serialize sets) -/
theorem C18_parse_serialize (m : Msg) (hw : m.hdr.WF) (hl : 16 + m.data.length < 4294967296) :
    parseAudit (serialize m) = .ok { hdr := { m.hdr with len := 16 + m.data.length }, data := m.data } := by
  rw [parseAudit_of_le (by rw [serialize_length]; omega), Hdr.parse_serialize m hw hl, serialize_drop]

/-- non-vacuity: a request with a payload -/
example : parseAudit (serialize ⟨⟨0, 1001, 5, 7, 99⟩, [1, 2, 3]⟩) = .ok ⟨⟨19, 1001, 5, 7, 99⟩, [1, 2, 3]⟩ := by
  decide +kernel

/-- Send: the sequence number returned is the previous one plus one (mod 2^32), it is the one in
the header on the wire, the port id is filled in iff the caller left it 0, type, flags and payload
are the caller's, the length is right. -/
theorem C18_send (c : NL) (m : Msg) (hw : m.hdr.WF) (hc : c.pid < 4294967296)
    (hl : 16 + m.data.length < 4294967296) :
    let r := c.send m
    r.2.1 = (c.seq + 1) % 4294967296 ∧ r.1.seq = r.2.1 ∧ r.1.pid = c.pid ∧
    parseAudit r.2.2 = .ok { hdr := { len := 16 + m.data.length, typ := m.hdr.typ, flags := m.hdr.flags, seq := r.2.1,
                                       pid := if m.hdr.pid = 0 then c.pid else m.hdr.pid },
                             data := m.data } := by
  obtain ⟨h1, h2, h3, h4, h5⟩ := hw
  refine ⟨rfl, rfl, rfl, ?_⟩
  have hp : (if m.hdr.pid = 0 then c.pid else m.hdr.pid) < 4294967296 := by split <;> assumption
  exact C18_parse_serialize
    ⟨{ m.hdr with pid := if m.hdr.pid = 0 then c.pid else m.hdr.pid, seq := (c.seq + 1) % 4294967296 }, m.data⟩
    ⟨h1, h2, h3, Nat.mod_lt _ (by decide), hp⟩ hl

example : ((⟨4242, 6⟩ : NL).send ⟨⟨0, 1000, 5, 0, 0⟩, []⟩).2 = (7, serialize ⟨⟨16, 1000, 5, 7, 4242⟩, []⟩) := by decide +kernel

/-- Concurrent senders.  For any number of senders and any interleaving (`sched`: which sender
makes its next step; a Send is the atomic fetch-and-add followed later by sendto), as long as the
counter does not wrap (`c0 + steps < 2^32`):
* the values obtained by the atomic steps are `c0+1, c0+2, …` in step order (gap-free, increasing);
* every message on the wire carries (and its Send returns) a value some atomic step of the same
  sender produced; these values are pairwise distinct over all senders;
* each sender's values appear on the wire in increasing order.

PARTIAL: proved of the model in which `atomic.AddUint32` is one indivisible step (`cstep`).  Missing:
that the Go runtime and the hardware provide that atomicity — supported by the N x M concurrent Send
run of the harness only. -/
theorem C18_seq_concurrent_partial (c0 : Nat) (sched : List Nat) (hb : c0 + sched.length < 4294967296) :
    let s := crun (CSt.init c0) sched
    vals s.adds = List.range' (c0 + 1) s.adds.length ∧
    (∀ x ∈ s.wire, x ∈ s.adds) ∧
    (vals s.wire).Nodup ∧
    ∀ t, (vals (s.wire.filter (·.1 == t))).Pairwise (· < ·) := by
  have h := cinv_run sched (cinv_init c0) (by simpa [CSt.init] using hb)
  refine ⟨h.adds_eq, h.wire_sub, h.wire_nd, fun t => ?_⟩
  -- a sender's adds are a sublist of all adds, which increase; what it has put on the wire is a prefix of its adds
  have hs : (vals ((crun (CSt.init c0) sched).adds.filter (·.1 == t))).Pairwise (· < ·) := by
    refine List.Pairwise.sublist (List.Sublist.map _ List.filter_sublist) ?_
    rw [← vals, h.adds_eq]
    exact List.pairwise_lt_range'
  rw [← h.per_tid t, vals, List.map_append] at hs
  exact (List.pairwise_append.mp hs).1

/-- non-vacuity: two senders, interleaved so that sender 1 obtains its number second but sends first -/
example : (crun (CSt.init 0) [0, 1, 1, 0, 0, 1]).wire = [(1, 2), (0, 1)] ∧
          (crun (CSt.init 0) [0, 1, 1, 0, 0, 1]).adds = [(0, 1), (1, 2), (0, 3), (1, 4)] := by
  decide +kernel

/-- The wrap, stated rather than hidden: the counter is a uint32.  From 2^32-1 the next Send
returns 0 — the number the kernel uses for unsolicited records — and 2^32 Sends later the same
numbers come round again, so "distinct" holds only for fewer than 2^32 Sends on one client. -/
theorem C18_seq_wrap (pid : Nat) (m : Msg) :
    ((⟨pid, 4294967295⟩ : NL).send m).2.1 = 0 ∧
    ∀ c : NL, (c.send m).2.1 = (({ c with seq := c.seq + 4294967296 } : NL).send m).2.1 := by
  refine ⟨by simp [NL.send], ?_⟩
  intro c
  simp only [NL.send]
  omega

/-- Receive's guards.  Data is returned exactly when recvfrom succeeded with at least a header's
worth of bytes from a netlink address whose port id is 0 (the kernel) and the caller's parser
accepts the bytes — and then it is exactly what the parser makes of the `nr` bytes received.
In every other case the result is an error and nothing is returned. -/
theorem C18_receive_guard {α : Type} (io : Option (Bytes × From)) (p : Bytes → Option α) (x : α) :
    NL.receive io true p = .ok x ↔
      ∃ buf groups, io = some (buf, From.netlink 0 groups) ∧ 16 ≤ buf.length ∧ p buf = some x := by
  constructor
  · intro h
    match io, h with
    | none, h => cases h
    | some (buf, .other), h => by_cases hl : buf.length < 16 <;> simp [NL.receive, NLMSG_HDRLEN, hl] at h
    | some (buf, .netlink pid groups), h =>
      by_cases hl : buf.length < 16
      · simp [NL.receive, NLMSG_HDRLEN, hl] at h
      · by_cases hp : pid = 0
        · subst hp
          refine ⟨buf, groups, rfl, by omega, ?_⟩
          cases hb : p buf with
          | none => simp [NL.receive, NLMSG_HDRLEN, hl, hb] at h
          | some y => simp [NL.receive, NLMSG_HDRLEN, hl, hb] at h; rw [h]
        · simp [NL.receive, NLMSG_HDRLEN, hl, hp] at h
  · rintro ⟨buf, groups, rfl, hlen, hp⟩
    have : ¬ buf.length < 16 := by omega
    simp [NL.receive, NLMSG_HDRLEN, this, hp]

/-- A datagram from any other sender, or one shorter than a header, is an error whatever the parser
would say. -/
theorem C18_receive_rejects {α : Type} (buf : Bytes) (src : From) (w : Bool) (p : Bytes → Option α)
    (h : buf.length < 16 ∨ src = From.other ∨ ∃ pid groups, src = From.netlink pid groups ∧ pid ≠ 0) :
    ∃ e, NL.receive (some (buf, src)) w p = .error e := by
  by_cases hl : buf.length < 16
  · exact ⟨.tooShort, by simp [NL.receive, NLMSG_HDRLEN, hl]⟩
  · rcases h with h | rfl | ⟨pid, groups, rfl, h⟩
    · exact absurd h hl
    · exact ⟨.notKernel, by simp [NL.receive, NLMSG_HDRLEN, hl]⟩
    · exact ⟨.notKernel, by simp [NL.receive, NLMSG_HDRLEN, hl, h]⟩

/-- non-vacuity: the kernel's datagram is returned, the same bytes from port 4711 (even through a
multicast group) are not -/
example : NL.receive (some (serialize ⟨⟨0, 1300, 0, 0, 0⟩, [65]⟩, From.netlink 0 1)) true (fun b => some b) =
            .ok (serialize ⟨⟨0, 1300, 0, 0, 0⟩, [65]⟩) ∧
          NL.receive (some (serialize ⟨⟨0, 1300, 0, 0, 0⟩, [65]⟩, From.netlink 4711 1)) true (fun b => some b) =
            .error .notKernel := by
  constructor <;> rfl

/-- parseNetlinkAuditMessage: a buffer shorter than 16 bytes is an error; otherwise the header is
the first 16 bytes decoded, the data is everything after them — whatever the header's length
field says — and in no case is memory outside the buffer read. -/
theorem C18_parse_audit (buf : Bytes) :
    (buf.length < 16 → parseAudit buf = .err) ∧
    (16 ≤ buf.length → parseAudit buf = .ok { hdr := Hdr.parse (buf.take 16), data := buf.drop 16 }) ∧
    parseAudit buf ≠ .oob := by
  refine ⟨parseAudit_of_lt, ?_, ?_⟩
  · intro h; rw [parseAudit_of_le h, Hdr.parse_take]
  · by_cases h : buf.length < 16
    · rw [parseAudit_of_lt h]; simp
    · rw [parseAudit_of_le (by omega)]; simp

/-- the length guard is what keeps the unsafe header read inside the buffer -/
theorem C18_parse_audit_guard_needed (buf : Bytes) (h : buf.length < 16) : parseAuditUnguarded buf = .oob := by
  have : ¬ 16 ≤ buf.length := by omega
  simp [parseAuditUnguarded, unsafeRead, this]

/-- the length field is ignored: same bytes, any length field, same type / sequence / data -/
example : parseAudit (Hdr.bytes ⟨4000000000, 1305, 0, 0, 0⟩ ++ [1, 2]) = .ok ⟨⟨4000000000, 1305, 0, 0, 0⟩, [1, 2]⟩ := by
  decide +kernel

/-- How the kernel reads a datagram it receives on a netlink socket (`netlink_rcv_skb`, `audit_receive`): while at
least a header is left (`nlmsg_ok`: 16 bytes, a length field of at least 16 and of at most what is left) it takes one
message, then moves on by the length field rounded up to a multiple of four (`nlmsg_next`). Every message found is
processed as a request of its own. -/
def kernelWalk : Nat → Bytes → List Msg
  | 0, _ => []
  | fuel + 1, buf =>
    if buf.length < 16 then []
    else
      let h := Hdr.parse buf
      if h.len < 16 ∨ buf.length < h.len then []
      else ⟨h, (buf.take h.len).drop 16⟩ :: kernelWalk fuel (buf.drop ((h.len + 3) / 4 * 4))

/-- One message on the wire, and nothing behind it: the kernel, walking the datagram `Send` hands to the socket, finds
exactly one message — the caller's type, flags and payload, the length set — however many more it is prepared to look
for. (The seeded change C18-y, a reused send buffer transmitted whole, is the failure this excludes: there the
walk finds the headers an earlier payload left behind the message.) -/
theorem C18_one_message_on_the_wire (m : Msg) (hw : m.hdr.WF) (hl : 16 + m.data.length < 4294967296) (fuel : Nat) :
    kernelWalk (fuel + 1) (serialize m) = [{ hdr := { m.hdr with len := 16 + m.data.length }, data := m.data }] := by
  have hlen := serialize_length m
  -- a header is there; its length field is the whole datagram, so the message is all of it and nothing is left to walk
  rw [kernelWalk, if_neg (by omega)]
  simp only [Hdr.parse_serialize m hw hl]
  rw [if_neg (by omega), List.take_of_length_le (by omega), serialize_drop, List.drop_of_length_le (by omega)]
  cases fuel <;> rfl

/-- non-vacuity, and the walk does find what is behind a message: two requests in one datagram are two messages. -/
example : kernelWalk 5 (serialize ⟨⟨0, 1001, 5, 7, 99⟩, [1, 2, 3]⟩) = [⟨⟨19, 1001, 5, 7, 99⟩, [1, 2, 3]⟩] := by decide +kernel
example : (kernelWalk 5 (serialize ⟨⟨0, 1001, 5, 7, 99⟩, [1, 2, 3, 4]⟩ ++ serialize ⟨⟨0, 1000, 5, 8, 99⟩, []⟩)).length = 2 := by decide +kernel

end LA.Netlink

/-! ### the code keeps nothing between calls that the model does not have -/

/-- Outside `init`, no function of the root package writes a package-level variable, hands the address of one to a function or calls a
sync/atomic method on one (regenerated list, see LA.Proofs.StateFacts): all state is in the object the model is given. -/
theorem C18_state_is_in_the_object : LA.StateFacts.ofPkg "" = [] := LA.StateFacts.ofPkg_root

/-- What the root package reads of the process it runs in is the clock (the Reassembler's deadlines, which the model is
given as readings), the process id (an input of SetPID) and the page size (the default receive buffer): `envReads`,
regenerated with go/types on every run, lists the package-level functions of os, os/user, os/exec, net, runtime,
math/rand, crypto/rand that are called, time.Now / Since / Until, file-system functions of path/filepath and process
queries of syscall. Nothing else of the machine — processors, environment variables, files, random numbers — can
influence what the Reassembler or the client does. -/
theorem C18_environment_is_clock_pid_pagesize : LA.StateFacts.envOf "" = LA.StateFacts.rootEnv := LA.StateFacts.envOf_root
