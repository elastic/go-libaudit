/-
C03 — EventsLost reports exactly the sequence numbers skipped between deliveries.

Independent specification (`specAdvance`): scan the deliveries keeping the last
in-order sequence L; a delivery s is in order iff L is unset or s lies after L in the
window; an in-order delivery contributes the number of sequence numbers strictly between
L and s; late or duplicate deliveries contribute nothing and do not move L.
-/
import LA.Proofs.ReasmOrder
import LA.Proofs.StateObligations.Root
import LA.Gen.ReasmFacts

namespace LA.Reasm

/-- the specification of one accounting step, in terms of window positions only. -/
def specAdvance (w : Nat) (last : Option Nat) (s : Nat) : Option Nat × Nat :=
  match last with
  | none => (some s, 0)
  | some l => if wpos w l < wpos w s then (some s, wpos w s - wpos w l - 1) else (some l, 0)

def specAccount (w : Nat) (last : Option Nat) : List Nat → Option Nat × Nat
  | [] => (last, 0)
  | s :: rest =>
    let a := specAdvance w last s
    let r := specAccount w a.1 rest
    (r.1, a.2 + r.2)

theorem advance_count {w l s : Nat} (hl : InWin w l) (hs : InWin w s) (h : wpos w l < wpos w s) :
    (s + 4294967296 - l - 1) % 4294967296 = wpos w s - wpos w l - 1 := by
  obtain ⟨_, _, _, h1⟩ := hl.pos
  obtain ⟨_, _, _, h2⟩ := hs.pos
  have : s + 4294967296 - l - 1 = wpos w s - wpos w l - 1 ∨
      s + 4294967296 - l - 1 = wpos w s - wpos w l - 1 + 4294967296 := by omega
  rcases this with h | h <;> rw [h]
  · exact Nat.mod_eq_of_lt (by omega)
  · rw [Nat.add_mod_right]; exact Nat.mod_eq_of_lt (by omega)

theorem advance_eq_spec {w : Nat} {last : Option Nat} {s : Nat}
    (hl : ∀ l, last = some l → InWin w l) (hs : InWin w s) :
    advance last s = specAdvance w last s ∧ ∀ l, (specAdvance w last s).1 = some l → InWin w l := by
  cases last with
  | none => exact ⟨rfl, fun _ h => Option.some.inj h ▸ hs⟩
  | some l =>
    simp only [advance, specAdvance, less_window (hl l rfl) hs, decide_eq_true_eq]
    split
    next h => exact ⟨by rw [advance_count (hl l rfl) hs h], fun _ h => Option.some.inj h ▸ hs⟩
    next => exact ⟨rfl, hl⟩

/-- the model's accounting equals the specification on any list of in-window deliveries. One window `w` serves the whole
list, where `WinRun` (C02) lets the window move from one push to the next: the statement is about a stretch of deliveries
that a single window covers. -/
theorem C03_matches_spec {w : Nat} (last : Option Nat) (ds : List Nat)
    (hl : ∀ l, last = some l → InWin w l) (hd : ∀ s ∈ ds, InWin w s) :
    account last ds = specAccount w last ds := by
  induction ds generalizing last with
  | nil => rfl
  | cons s ds ih =>
    obtain ⟨h, hl'⟩ := advance_eq_spec hl (hd s (List.mem_cons_self ..))
    simp only [account, specAccount, h]
    rw [ih _ hl' fun s hs => hd s (List.mem_cons_of_mem _ hs)]

/-- Per call: what a call reports is the accounting of exactly the events that this call
delivers, starting from the last in-order delivery of earlier calls; it is reported in one
EventsLost callback placed after the call's groups, and only when positive. -/
theorem C03_per_call (s : St) (op : Op) :
    let a := account s.last (keys (evictedBy s op))
    (step s op).1.last = a.1 ∧
    lostOf (step s op).2 = a.2 ∧
    ((step s op).2 = [Out.err] ∨
     (step s op).2 = (evictedBy s op).map (fun p => Out.group p.2.msgs) ++ (if a.2 > 0 then [Out.lost a.2] else [])) := by
  exact ⟨(step_spec s op).last, lostOf_step s op, (step_spec s op).out.imp And.left id⟩

/-- the sequence numbers delivered along a run, in delivery order. -/
def runKeys (s : St) : List Op → List Nat
  | [] => []
  | op :: ops => keys (evictedBy s op) ++ runKeys (step s op).1 ops

/-- Over a whole history the reported counts sum to the accounting of all deliveries in
order (so every gap is reported, once, in the call that delivers the event after it). -/
theorem C03_run_total (s : St) (ops : List Op) :
    ((run s ops).2.map lostOf).sum = (account s.last (runKeys s ops)).2 ∧
    (run s ops).1.last = (account s.last (runKeys s ops)).1 := by
  induction ops generalizing s with
  | nil => simp [run, runKeys, account]
  | cons op ops ih =>
    have h := C03_per_call s op
    simp only at h
    simp only [run, runKeys, List.map_cons, List.sum_cons, account_append]
    rw [(ih _).1, (ih _).2, h.1, h.2.1]
    exact ⟨rfl, rfl⟩

/-- Every reported count is positive. -/
theorem C03_positive (maxSize timeout : Int) (ops : List Op) :
    ∀ outs ∈ (run (init maxSize timeout) ops).2, ∀ n, Out.lost n ∈ outs → n > 0 := by
  intro outs ho n hn
  obtain ⟨pre, op, post, rfl, rfl⟩ := mem_run_trace ho
  rcases (step_spec _ op).out with ⟨h, _⟩ | h <;> rw [h] at hn
  · simp at hn
  · rcases List.mem_append.mp hn with hn | hn
    · simp at hn
    · split at hn <;> simp at hn
      omega

/-- Late or duplicate deliveries (not after the last in-order one) never add to the count
and do not move the reference point. -/
theorem C03_late_never_counts (l s : Nat) (h : less l s = false) : advance (some l) s = (some l, 0) := by
  simp [advance, h]

/-- In window terms: a delivery at or before the last in-order one contributes nothing. -/
theorem C03_late_spec (w l s : Nat) (h : wpos w s ≤ wpos w l) : specAdvance w (some l) s = (some l, 0) := by
  simp [specAdvance]; omega

/-- how many deliveries of the list are in order, i.e. move the reference point, which starts at `l`. -/
def inOrderCount (w : Nat) (l : Nat) : List Nat → Nat
  | [] => 0
  | s :: rest => if wpos w l < wpos w s then 1 + inOrderCount w s rest else inOrderCount w l rest

/-- Closed form on in-window deliveries: the total equals the window distance covered by the
in-order deliveries minus the number of in-order deliveries, i.e. exactly the sequence
numbers skipped. A stream with no gaps (each in-order delivery one after the previous)
therefore reports nothing. -/
theorem C03_total (w l : Nat) (ds : List Nat) :
    ∃ l', (specAccount w (some l) ds).1 = some l' ∧ wpos w l ≤ wpos w l' ∧
      (specAccount w (some l) ds).2 + inOrderCount w l ds = wpos w l' - wpos w l := by
  induction ds generalizing l with
  | nil => exact ⟨l, rfl, Nat.le_refl _, by simp [specAccount, inOrderCount]⟩
  | cons s ds ih =>
    simp only [specAccount, specAdvance, inOrderCount]
    split
    next h =>
      obtain ⟨l', h1, h2, h3⟩ := ih s
      exact ⟨l', h1, by omega, by simp only; omega⟩
    next =>
      obtain ⟨l', h1, h2, h3⟩ := ih l
      exact ⟨l', h1, h2, by simp only; omega⟩

/-- No gap, no report: consecutive deliveries contribute zero. -/
theorem C03_no_gap_no_report (w l s : Nat) (h : wpos w s = wpos w l + 1) :
    specAdvance w (some l) s = (some s, 0) := by
  unfold specAdvance
  simp only
  rw [if_pos (by omega)]
  congr 1
  omega

/-- non-vacuity / regression witness: the history that the unfixed code got wrong
(late arrival after eviction) reports 5 for the gap and nothing for the late event. -/
example : (run (init 1 3600000000000)
    [.push ⟨1, 10, 1300⟩ 0 0, .push ⟨2, 16, 1300⟩ 0 0, .push ⟨3, 12, 1300⟩ 0 0, .push ⟨4, 17, 1300⟩ 0 0, .close]).2
    = [[], [.group [⟨1, 10, 1300⟩]], [.group [⟨3, 12, 1300⟩], .lost 1], [.group [⟨2, 16, 1300⟩], .lost 3], [.group [⟨4, 17, 1300⟩]]] := by
  decide +kernel

end LA.Reasm

/-! ### the code keeps nothing between calls that the model does not have -/

/-- Outside `init`, no function of the root package writes a package-level variable, hands the address of one to a function or calls a
sync/atomic method on one (regenerated list, see LA.Proofs.StateFacts): all state is in the object the model is given. -/
theorem C03_state_is_in_the_object : LA.StateFacts.ofPkg "" = [] := LA.StateFacts.ofPkg_root

/-- No component of a Reassembler's state counts operations in fewer than 64 bits: no integer field of at most 32 bits,
anywhere below the struct, grows by a constant small step per delivery, per call or per Close (read off running
Reassemblers through reflection on every run, fields found by behaviour, not by name; harness/cmd/extract/reasmfacts.go).
The model's state has sequence numbers, a flag and sizes, no counters; a counter that wraps after 2^32 events (a few hours
of a busy host, far beyond any history a check can run) would make whatever is decided from it wrong from then on. -/
theorem C03_no_narrow_operation_counters : LA.Gen.ReasmFacts.narrowCounters = [] := by rfl

/-- The model's message is the record as the Reassembler sees it — an identity, a sequence number and a record type —
and that is all the code looks at: in reassembler.go the only fields of `auparse.AuditMessage` selected are `RecordType`
and `Sequence`, and the only function outside the root package that is handed messages is the Stream's
`ReassemblyComplete` (`msgReads`, regenerated with go/types on every run). Grouping, order, completion, eviction and
loss accounting are therefore functions of (sequence, type) histories and of the clock, as in `Model.Reasm`; a
Reassembler that also consults a record's time stamp, text or parsed data — to guess at a restart of the kernel's
counter, to tell two events with one number apart — is outside that reading whatever it uses them for, and the
drivers' histories (which vary time stamps and bodies independently of the sequence numbers) search for the input on
which it shows. -/
theorem C03_reads_only_sequence_and_type :
    LA.Gen.ReasmFacts.msgReads = ["call:ReassemblyComplete", "field:RecordType", "field:Sequence"] := by rfl

/-- What the root package reads of the process it runs in is the clock (the Reassembler's deadlines, which the model is
given as readings), the process id (an input of SetPID) and the page size (the default receive buffer): `envReads`,
regenerated with go/types on every run, lists the package-level functions of os, os/user, os/exec, net, runtime,
math/rand, crypto/rand that are called, time.Now / Since / Until, file-system functions of path/filepath and process
queries of syscall. Nothing else of the machine — processors, environment variables, files, random numbers — can
influence what the Reassembler or the client does. -/
theorem C03_environment_is_clock_pid_pagesize : LA.StateFacts.envOf "" = LA.StateFacts.rootEnv := LA.StateFacts.envOf_root
