/-
`applyNormalization` and `addProcess`.  Each stage is one record update of the event, and an update
of the summary fields leaves alone what the frames speak of (`NFrame.of_writes`, `NTFrame.of_writes`):
the frame of a stage is its unfolding and that one fact.  `setSourceIP` alone moves a pair out of Data.
-/
import LA.Proofs.CoalesceCases

namespace LA.Coalesce

/-- frame of `applyNormalization`: stable places untouched, warnings only grow, a pair in
Data stays there or becomes the source address. -/
structure NFrame (e e' : Event) : Prop where
  ids : e'.ids = e.ids
  selinux : e'.selinux = e.selinux
  result : e'.result = e.result
  session : e'.session = e.session
  ts : e'.ts = e.ts
  seq : e'.seq = e.seq
  typ : e'.typ = e.typ
  cat : e'.cat = e.cat
  tags : e'.tags = e.tags
  paths : e'.paths = e.paths
  args : e'.args = e.args
  warn : ∃ extra, e'.warnings = e.warnings ++ extra
  data : ∀ κ v, lookup κ e.data = some v → lookup κ e'.data = some v ∨ ∃ a, e'.source = some a ∧ a.ip = v
  src : ∀ a, e.source = some a → e'.source = some a

theorem NFrame.of_writes (e : Event) (a1 a2 ac ot o1 o2 hw ek : Bytes) (ec et : List Bytes) (eo : Bytes)
    (u1 u2 u3 u4 u5 : Entity) :
    NFrame e { e with actorPrimary := a1, actorSecondary := a2, action := ac, objType := ot, objPrimary := o1,
                      objSecondary := o2, how := hw, ecsKind := ek, ecsCategory := ec, ecsType := et,
                      ecsOutcome := eo, ecsUser := u1, ecsEffective := u2, ecsTarget := u3, ecsChanges := u4,
                      ecsGroup := u5 } :=
  ⟨rfl, rfl, rfl, rfl, rfl, rfl, rfl, rfl, rfl, rfl, rfl, ⟨[], (List.append_nil _).symm⟩,
    fun _ _ h => Or.inl h, fun _ h => h⟩

theorem NFrame.trans {e1 e2 e3 : Event} (h1 : NFrame e1 e2) (h2 : NFrame e2 e3) : NFrame e1 e3 := by
  refine ⟨h2.ids.trans h1.ids, h2.selinux.trans h1.selinux, h2.result.trans h1.result,
    h2.session.trans h1.session, h2.ts.trans h1.ts, h2.seq.trans h1.seq, h2.typ.trans h1.typ,
    h2.cat.trans h1.cat, h2.tags.trans h1.tags, h2.paths.trans h1.paths, h2.args.trans h1.args,
    extends_trans h1.warn h2.warn, ?_, fun a h => h2.src a (h1.src a h)⟩
  intro κ v h
  rcases h1.data κ v h with h | ⟨a, ha, hv⟩
  · exact h2.data κ v h
  · exact Or.inr ⟨a, h2.src a ha, hv⟩

/-- the fields that `setEcs` and `setObject` have written and that the tail of
`applyNormalization` and `addProcess` leave alone. -/
structure TFrame (e e' : Event) : Prop where
  file : e'.file = e.file
  objType : e'.objType = e.objType
  action : e'.action = e.action
  ecsKind : e'.ecsKind = e.ecsKind
  ecsCategory : e'.ecsCategory = e.ecsCategory
  ecsType : e'.ecsType = e.ecsType
  ecsOutcome : e'.ecsOutcome = e.ecsOutcome

theorem TFrame.trans {e1 e2 e3 : Event} (h1 : TFrame e1 e2) (h2 : TFrame e2 e3) : TFrame e1 e3 :=
  ⟨h2.file.trans h1.file, h2.objType.trans h1.objType, h2.action.trans h1.action, h2.ecsKind.trans h1.ecsKind,
    h2.ecsCategory.trans h1.ecsCategory, h2.ecsType.trans h1.ecsType, h2.ecsOutcome.trans h1.ecsOutcome⟩

/-- both frames: what a warning, `setHowDefaults` and every stage of the tail of `applyNormalization` satisfy. -/
structure NTFrame (e e' : Event) : Prop extends NFrame e e', TFrame e e'

theorem NTFrame.of_writes (e : Event) (a1 a2 o1 o2 hw : Bytes) (u1 u2 u3 u4 u5 : Entity) :
    NTFrame e { e with actorPrimary := a1, actorSecondary := a2, objPrimary := o1, objSecondary := o2, how := hw,
                       ecsUser := u1, ecsEffective := u2, ecsTarget := u3, ecsChanges := u4, ecsGroup := u5 } :=
  ⟨NFrame.of_writes e .., ⟨rfl, rfl, rfl, rfl, rfl, rfl, rfl⟩⟩

theorem NTFrame.refl (e : Event) : NTFrame e e := NTFrame.of_writes e ..

theorem NTFrame.trans {e1 e2 e3 : Event} (h1 : NTFrame e1 e2) (h2 : NTFrame e2 e3) : NTFrame e1 e3 :=
  ⟨h1.toNFrame.trans h2.toNFrame, h1.toTFrame.trans h2.toTFrame⟩

theorem warn_frame (e : Event) (w : Warn) : NTFrame e (warn e w) :=
  { NTFrame.refl e with warn := ⟨[w], rfl⟩ }

theorem setHowDefaults_frame (e : Event) : NTFrame e (setHowDefaults e) := by
  unfold setHowDefaults
  dsimp only
  split
  · exact .refl e
  · split
    · split <;> exact .of_writes ..
    · exact .of_writes ..

theorem applyMapping_frame (e : Event) (m : Nat × Bytes × Nat) : NTFrame e (applyMapping e m) := by
  unfold applyMapping
  by_cases h : m.1 = 0 ∨ m.2.2 = 0
  · rw [if_pos h]
    exact .refl e
  · rw [if_neg h]
    dsimp only
    split <;> exact .of_writes ..

theorem firstDataKey_lookup (ks : List Bytes) (e : Event) {kv : Bytes × Bytes}
    (h : firstDataKey ks e = some kv) : lookup kv.1 e.data = some kv.2 := by
  induction ks with
  | nil => simp [firstDataKey] at h
  | cons k r ih =>
    unfold firstDataKey at h
    split at h
    · rename_i v hv
      cases h
      exact hv
    · exact ih h

theorem setSourceIPStage_frame (n : Norm) (e : Event) : NTFrame e (setSourceIPStage n e) := by
  unfold setSourceIPStage
  split
  · rename_i hs
    split
    · rename_i kv hkv
      refine { NTFrame.refl e with data := fun κ v h => ?_, src := fun a ha => ?_ }
      · by_cases hk : κ = kv.1
        · -- the pair that becomes the source address
          rw [hk, firstDataKey_lookup _ _ hkv] at h
          exact Or.inr ⟨_, rfl, Option.some.inj h⟩
        · exact Or.inl ((lookup_erase_ne _ hk).trans h)
      · rw [ha] at hs
        exact absurd hs.1 nofun
    · exact warn_frame e _
  · exact .refl e

theorem setBy_frame (ks : List Bytes) (w : Warn) {upd : Event → Bytes → Event} (hu : ∀ e v, NTFrame e (upd e v))
    (e : Event) : NTFrame e (setBy ks w upd e) := by
  unfold setBy
  split
  · exact .refl e
  · split
    · exact hu e _
    · exact warn_frame e w

theorem applyTail_frame (n : Norm) (e : Event) : NTFrame e (applyTail n e) := by
  unfold applyTail
  exact (setBy_frame _ _ (fun _ _ => .of_writes ..) e).trans <|
    (setBy_frame _ _ (fun _ _ => .of_writes ..) _).trans <|
    (setBy_frame _ _ (fun _ _ => .of_writes ..) _).trans <|
    (setBy_frame _ _ (fun _ _ => .of_writes ..) _).trans <|
    (setBy_frame _ _ (fun _ _ => .of_writes ..) _).trans <|
    (setSourceIPStage_frame n _).trans <|
    foldl_rel NTFrame .refl .trans _ applyMapping_frame _ _

theorem setEcs_nframe (T : Tables) (ni : Nat) (s : Option Nat) (e : Event) : NFrame e (setEcs T ni s e) := by
  unfold setEcs
  cases extraNorm ni s <;> exact NFrame.of_writes ..

theorem fileFromPath_eq (e : Event) (p : KV) : fileFromPath e p =
    (let f3 : File := { path := getD kName p, inode := getD kInode p, device := getD kRdev p }
     match lookup kMode p with
     | none => { e with objPrimary := (lookup kName p).getD e.objPrimary,
                        file := some { f3 with uid := getD kOuid p, gid := getD kOgid p, selinux := objLabels p } }
     | some mv =>
       match parseUint 8 64 mv with
       | none => { e with objPrimary := (lookup kName p).getD e.objPrimary, file := some f3,
                          warnings := e.warnings ++ [.fileObj] }
       | some n => { e with objPrimary := (lookup kName p).getD e.objPrimary,
                            objType := classifyMode (n % 4294967296) e.objType,
                            file := some { f3 with mode := oct4 (n % 4294967296 % 4096), uid := getD kOuid p,
                                                   gid := getD kOgid p, selinux := objLabels p } }) := by
  unfold fileFromPath
  cases lookup kName p <;> rfl

theorem fileFromPath_writes (e : Event) (p : KV) : ∃ op ot f w,
    fileFromPath e p = { e with objPrimary := op, objType := ot, file := f, warnings := e.warnings ++ w } := by
  rw [fileFromPath_eq]
  cases lookup kMode p with
  | none => exact ⟨_, _, _, [], by rw [List.append_nil]⟩
  | some mv =>
    dsimp only
    cases parseUint 8 64 mv with
    | none => exact ⟨_, _, _, _, rfl⟩
    | some n => exact ⟨_, _, _, [], by rw [List.append_nil]⟩

theorem setSocketObject_writes (e : Event) : ∃ op os, setSocketObject e = { e with objPrimary := op, objSecondary := os } := by
  unfold setSocketObject
  cases lookup (b! "socket_addr") e.data <;> cases lookup (b! "socket_path") e.data <;> dsimp only <;>
    cases lookup (b! "socket_port") e.data <;> exact ⟨_, _, rfl⟩

theorem setObject_writes {n : Norm} {e e' : Event} (h : setObject n e = .ok e') : ∃ op os ot f w,
    e' = { e with objPrimary := op, objSecondary := os, objType := ot, file := f, warnings := e.warnings ++ w } := by
  rcases setObject_cases n e with h' | h' | ⟨_, _, ⟨p, _, h'⟩ | ⟨_, h'⟩⟩ <;> rw [h'] at h <;> cases h
  · exact ⟨_, _, _, _, [], by rw [List.append_nil]⟩
  · obtain ⟨_, _, h⟩ := setSocketObject_writes e
    rw [h]; exact ⟨_, _, _, _, [], by rw [List.append_nil]⟩
  · obtain ⟨_, _, _, w, h⟩ := fileFromPath_writes e p
    rw [h]; exact ⟨_, _, _, _, w, rfl⟩

theorem setObject_nframe {n : Norm} {e e' : Event} (h : setObject n e = .ok e') : NFrame e e' := by
  obtain ⟨_, _, _, _, w, rfl⟩ := setObject_writes h
  exact { (NTFrame.refl e).toNFrame with warn := ⟨w, rfl⟩ }

theorem applyNorm_nframe (T : Tables) (e e' : Event) (h : applyNorm T e = .ok e') : NFrame e e' := by
  rcases applyNorm_ok_cases h with ⟨_, rfl⟩ | ⟨ni, e2, _, h2, rfl⟩
  · exact ((setHowDefaults_frame e).trans (warn_frame _ _)).toNFrame
  · exact (setHowDefaults_frame e).toNFrame.trans ((setEcs_nframe T ni _ _).trans
      ((setObject_nframe h2).trans (applyTail_frame _ _).toNFrame))

def procKeys : List Bytes := [kPid, kPpid, kProctitle, kComm, kExe, kCwd]

/-- moved to a `process.*` field. -/
def ProcLoc (e : Event) (κ v : Bytes) : Prop :=
  (κ = kPid ∧ e.pid = v) ∨ (κ = kPpid ∧ e.ppid = v) ∨ (κ = kProctitle ∧ e.title = v) ∨
  (κ = kComm ∧ e.pname = v) ∨ (κ = kExe ∧ e.exe = v) ∨ (κ = kCwd ∧ e.cwd = v)

theorem procLoc_addProcess (e : Event) : ∀ κ ∈ procKeys, ProcLoc (addProcess e) κ (getD κ e.data) := by
  simp only [procKeys, ProcLoc, addProcess, List.mem_cons, List.not_mem_nil, or_false, forall_eq_or_imp, forall_eq,
    and_self, true_or, or_true]

theorem addProcess_data (e : Event) {κ v : Bytes} (h : lookup κ e.data = some v) :
    lookup κ (addProcess e).data = some v ∨ ProcLoc (addProcess e) κ v := by
  by_cases hp : κ ∈ procKeys
  · exact Or.inr (getD_of_lookup h ▸ procLoc_addProcess e κ hp)
  · simp only [procKeys, List.mem_cons, List.not_mem_nil, or_false, not_or] at hp
    left
    simpa only [addProcess, lookup_erase, hp, if_false] using h

theorem addProcess_tframe (e : Event) : TFrame e (addProcess e) := ⟨rfl, rfl, rfl, rfl, rfl, rfl, rfl⟩

end LA.Coalesce
