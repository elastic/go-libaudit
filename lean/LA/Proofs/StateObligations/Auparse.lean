/- Package auparse: see LA.Proofs.StateObligations.Root. -/
import LA.Proofs.StateFacts

namespace LA.StateFacts

theorem ofPkg_auparse : ofPkg "auparse" = [] := by decide +kernel
theorem envOf_auparse : envOf "auparse" = [] := by decide +kernel

end LA.StateFacts
