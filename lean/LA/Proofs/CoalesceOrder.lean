/-
The `for k, v := range data` loops of the coalescer in closed form.  Go ranges over a map in
an unspecified order, the model folds over an association list: a closed form gives what a loop
leaves behind as a function of the record and of the event before the loop, so the result does
not depend on the order, and later proofs read a record's pair off the event without an
induction of their own.
-/
import LA.Proofs.CoalesceKV

namespace LA.Coalesce

/-- body of `for k, v := range d { if p k { acc[τ k] = v } }`: `newEvent`'s three targets, the
`obj_` labels of `setFileObject` (`C09_file_labels`). -/
def putIf (p : Bytes → Bool) (τ : Bytes → Bytes) (acc : KV) (kv : Bytes × Bytes) : KV :=
  if p kv.1 then setKV (τ kv.1) kv.2 acc else acc

variable {p : Bytes → Bool} {τ : Bytes → Bytes}

theorem lookup_foldl_putIf_of_not {d : KV} {t : Bytes} (h : ∀ kv ∈ d, p kv.1 = true → τ kv.1 ≠ t) (acc : KV) :
    lookup t (d.foldl (putIf p τ) acc) = lookup t acc := by
  induction d generalizing acc with
  | nil => rfl
  | cons q r ih =>
    rw [List.foldl_cons, ih (fun kv hkv => h kv (List.mem_cons_of_mem _ hkv)), putIf]
    split
    · rename_i hq; rw [lookup_setKV, if_neg (h q (List.mem_cons_self ..) hq)]
    · rfl

/-- `σ` recovers the record's key from the key written, so no two accepted keys share a target. -/
theorem lookup_foldl_putIf (σ : Bytes → Bytes) (hσ : ∀ k, p k = true → σ (τ k) = k)
    {d : KV} (hn : NoDupKeys d) (acc : KV) {k : Bytes} (hk : p k = true) :
    lookup (τ k) (d.foldl (putIf p τ) acc) = (lookup k d).or (lookup (τ k) acc) := by
  induction d generalizing acc with
  | nil => rfl
  | cons q r ih =>
    have hn' := nodupKeys_cons.mp hn
    rw [List.foldl_cons, ih hn'.2, lookup_cons, putIf]
    by_cases hq : q.1 = k
    · subst hq
      rw [if_pos hk, if_pos rfl, lookup_eq_none_iff.mpr hn'.1, lookup_setKV, if_pos rfl]; rfl
    · rw [if_neg hq]
      split
      · rename_i hpq
        rw [lookup_setKV, if_neg (fun h => hq (by rw [← hσ _ hpq, h, hσ _ hk]))]
      · rfl

theorem lookup_foldl_putIf_perm (σ : Bytes → Bytes) (hσ : ∀ k, p k = true → σ (τ k) = k)
    {d d' : KV} (hp : d.Perm d') (hn : NoDupKeys d) (acc : KV) (t : Bytes) :
    lookup t (d'.foldl (putIf p τ) acc) = lookup t (d.foldl (putIf p τ) acc) := by
  by_cases h : p (σ t) = true ∧ τ (σ t) = t
  · obtain ⟨h1, h2⟩ := h
    generalize σ t = k at h1 h2
    subst h2
    rw [lookup_foldl_putIf σ hσ (hn.perm hp) acc h1, lookup_foldl_putIf σ hσ hn acc h1, lookup_perm hp hn]
  · have hno : ∀ kv : Bytes × Bytes, p kv.1 = true → τ kv.1 ≠ t :=
      fun kv hkv ht => h (by rw [← ht, hσ _ hkv]; exact ⟨hkv, rfl⟩)
    rw [lookup_foldl_putIf_of_not (fun kv _ => hno kv), lookup_foldl_putIf_of_not (fun kv _ => hno kv)]

def toIds (k : Bytes) : Bool := !(decide (k = kResult ∨ k = kSes)) && isIdKey k
def toSelinux (k : Bytes) : Bool := !(decide (k = kResult ∨ k = kSes)) && !isIdKey k && hasPrefix kSubj_ k
def toData (k : Bytes) : Bool := !(decide (k = kResult ∨ k = kSes)) && !isIdKey k && !hasPrefix kSubj_ k

theorem distribute_eq (e : Event) (kv : Bytes × Bytes) : distribute e kv =
    { e with ids := putIf toIds id e.ids kv, selinux := putIf toSelinux (·.drop 5) e.selinux kv,
             data := putIf toData id e.data kv } := by
  unfold distribute putIf toIds toSelinux toData
  by_cases h1 : kv.1 = kResult ∨ kv.1 = kSes
  · simp [h1]
  · by_cases h2 : isIdKey kv.1 = true
    · simp [h1, h2]
    · by_cases h3 : hasPrefix kSubj_ kv.1 = true <;> simp [h1, h2, h3]

theorem foldl_distribute_eq (d : KV) (e : Event) : d.foldl distribute e =
    { e with ids := d.foldl (putIf toIds id) e.ids, selinux := d.foldl (putIf toSelinux (·.drop 5)) e.selinux,
             data := d.foldl (putIf toData id) e.data } := by
  induction d generalizing e with
  | nil => rfl
  | cons q r ih => rw [List.foldl_cons, ih, distribute_eq]; rfl

theorem toSelinux_restore {k : Bytes} (h : toSelinux k = true) : kSubj_ ++ k.drop 5 = k := by
  simp only [toSelinux, Bool.and_eq_true] at h
  exact append_drop_of_hasPrefix h.2

theorem newEvent_of_data (T : Tables) (first src : View) {d : KV} (hd : src.data = some d) :
    newEvent T first src =
      { ts := first.ts, seq := first.seq, cat := categoryOf T first.typ, typ := first.typ,
        result := (lookup kResult d).getD vUnknown, session := getD kSes d,
        actorPrimary := getD kAuid d, actorSecondary := getD kUid d, tags := src.tags,
        ids := d.foldl (putIf toIds id) [], selinux := d.foldl (putIf toSelinux (·.drop 5)) [],
        data := d.foldl (putIf toData id) [] } := by
  unfold newEvent
  rw [hd]
  exact foldl_distribute_eq _ _

theorem newEvent_lookup (T : Tables) (first src : View) {d : KV} (hd : src.data = some d) (hn : NoDupKeys d)
    (k : Bytes) :
    (toIds k = true → lookup k (newEvent T first src).ids = lookup k d) ∧
    (toSelinux k = true → lookup (k.drop 5) (newEvent T first src).selinux = lookup k d) ∧
    (toData k = true → lookup k (newEvent T first src).data = lookup k d) := by
  rw [newEvent_of_data T first src hd]
  exact ⟨fun h => (lookup_foldl_putIf (τ := id) id (fun _ _ => rfl) hn [] h).trans (Option.or_none ..),
    fun h => (lookup_foldl_putIf (kSubj_ ++ ·) (fun _ => toSelinux_restore) hn [] h).trans (Option.or_none ..),
    fun h => (lookup_foldl_putIf (τ := id) id (fun _ _ => rfl) hn [] h).trans (Option.or_none ..)⟩

theorem addField_fields (typ : Nat) (e : Event) (kv : Bytes × Bytes) :
    (addField typ e kv).data = (if hasKey kv.1 e.data then e.data else e.data ++ [kv]) ∧
    (addField typ e kv).warnings =
      (if hasKey kv.1 e.data then e.warnings ++ [Warn.dupKey kv.1 typ] else e.warnings) := by
  unfold addField
  split <;> simp [warn]

theorem foldl_addField_closed (typ : Nat) (d : KV) (hn : NoDupKeys d) (e : Event) :
    (d.foldl (addField typ) e).data = e.data ++ d.filter (fun kv => !hasKey kv.1 e.data) ∧
    (d.foldl (addField typ) e).warnings =
      e.warnings ++ (d.filter (fun kv => hasKey kv.1 e.data)).map (fun kv => Warn.dupKey kv.1 typ) := by
  induction d generalizing e with
  | nil => simp
  | cons q r ih =>
    have hn' := nodupKeys_cons.mp hn
    rw [List.foldl_cons, (ih hn'.2 _).1, (ih hn'.2 _).2, (addField_fields typ e q).1, (addField_fields typ e q).2,
      List.filter_cons, List.filter_cons]
    cases hk : hasKey q.1 e.data with
    | true => simp
    | false =>
      -- the keys of `r` differ from `q.1`: tested against the Data before `q` they answer the same
      have hcongr : ∀ kv ∈ r, hasKey kv.1 (e.data ++ [q]) = hasKey kv.1 e.data := fun kv hkv => by
        have hne : q.1 ≠ kv.1 := fun h => hn'.1 (h ▸ List.mem_map.mpr ⟨kv, hkv, rfl⟩)
        rw [hasKey, lookup_append, lookup_cons, if_neg hne, lookup_nil, Option.or_none, hasKey]
      simp only [Bool.false_eq_true, if_false, Bool.not_false, if_true]
      rw [List.filter_congr (p := fun kv : Bytes × Bytes => !hasKey kv.1 (e.data ++ [q]))
          (fun kv hkv => by rw [hcongr kv hkv]),
        List.filter_congr (p := fun kv : Bytes × Bytes => hasKey kv.1 (e.data ++ [q])) hcongr,
        List.append_assoc, List.singleton_append]
      exact ⟨rfl, rfl⟩

end LA.Coalesce
