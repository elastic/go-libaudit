/-
C15 — Coalescing is repeatable, leaves its inputs intact and isolates events.

Theorems about the heap layer `LA.Coalesce.coalesceH` / `resolveH` (Model/CoalesceHeap.lean)
over the pure model `coalesce` (Model/Coalesce.lean), for every table set `T`, every heap that
satisfies `HeapWF` (the table slices are readable and have `cap = len` — a fact about the
regenerated tables, discharged for them by `C15_tables_full`), every list of message ids.
What is *not* expressed here: data-race freedom of the Go runtime (the harness's concurrent
runs under the race detector carry that part) — hence `C15_cache_atomic` assumes that one
`stringCache.lookup` is one atomic step (its mutex).
-/
import LA.Proofs.CoalesceLink
import LA.Proofs.StateObligations.Coalesce
import LA.Proofs.StateObligations.Auparse

namespace LA.Coalesce

/-! ### data obligations on the regenerated tables -/

/-- every ECS category/type slice the YAML decoder produced is full (`cap = len`), so
`append` in `applyNormalization` can never write into a table's backing array. -/
theorem C15_tables_full :
    ∀ n ∈ genTables.norms, n.catCap = n.ecsCategory.length ∧ n.typCap = n.ecsType.length := by
  decide +kernel

/-- no `object_path_index` is negative, so `event.Paths[pathIndex]` is always in range. -/
theorem C15_path_index_nonneg : ∀ n ∈ genTables.norms, 0 ≤ n.objectPathIndex := by
  decide +kernel

/-- the heap after package `init` is well formed. -/
theorem C15_init_wf : HeapWF (Heap.init genTables) := init_wf genTables C15_tables_full

/-- `CoalesceMessages` writes nothing that existed before the call except empty
message caches, which it fills with that message's own parse result: every message keeps its
header and parse result and its cache is unchanged or goes from empty to the parse result; no
existing backing array (normalisation tables, slices held by earlier events) is written —
arrays are only added; the table slice headers are unchanged; the heap stays well formed. -/
theorem C15_frame (T : Tables) (h : Heap) (hw : HeapWF h) (ids : List Nat) :
    (coalesceH T h ids).1.msgs.length = h.msgs.length ∧
    (∀ (i : Nat) (c : MsgCell), h.msgs[i]? = some c →
      ∃ c', (coalesceH T h ids).1.msgs[i]? = some c' ∧ CellStep c c') ∧
    (∃ extra, (coalesceH T h ids).1.arrs = h.arrs ++ extra) ∧
    (coalesceH T h ids).1.catSlices = h.catSlices ∧ (coalesceH T h ids).1.typSlices = h.typSlices ∧
    HeapWF (coalesceH T h ids).1 := by
  have hf := coalesceH_hframe T h hw ids
  exact ⟨hf.len, hf.cells, hf.arrs, hf.cat, hf.typ, hw.mono hf⟩

/-- What every message reports (`Data()`, `Tags()`; `ToMapStr` is a
function of these and the immutable header) is the same after the call as before. -/
theorem C15_inputs_intact (T : Tables) (h : Heap) (hw : HeapWF h) (ids : List Nat) (i : Nat) :
    obsAt (coalesceH T h ids).1 i = obsAt h i ∧ viewAt (coalesceH T h ids).1 i = viewAt h i :=
  ⟨(coalesceH_hframe T h hw ids).obs_eq i, (coalesceH_hframe T h hw ids).view_eq i⟩

/-- `EventValid h eh` (Proofs/CoalesceHeap.lean), spelled out: both slices of the event can be
read in `h` — they are empty or their backing array exists.  True of every event `coalesceH`
returned (`C15_returned_valid`) and kept by later calls (`C15_isolation`). -/
theorem C15_event_valid_iff (h : Heap) (eh : EventH) :
    EventValid h eh ↔ ((eh.cat.len = 0 ∨ eh.cat.cell < h.arrs.length) ∧
                       (eh.typ.len = 0 ∨ eh.typ.cell < h.arrs.length)) := Iff.rfl

/-- An event returned earlier reads exactly the same after any later
`CoalesceMessages` call (on the same or on other messages), and stays readable. -/
theorem C15_isolation (T : Tables) (h : Heap) (hw : HeapWF h) (ids : List Nat) (eh : EventH)
    (hv : EventValid h eh) :
    deref (coalesceH T h ids).1 eh = deref h eh ∧ EventValid (coalesceH T h ids).1 eh :=
  ⟨deref_frame (coalesceH_hframe T h hw ids) hv,
   hv.1.mono (coalesceH_hframe T h hw ids), hv.2.mono (coalesceH_hframe T h hw ids)⟩

/-- the event a call returns is readable in the heap the call leaves. -/
theorem C15_returned_valid (T : Tables) (h : Heap) (hw : HeapWF h) (ids : List Nat) (eh : EventH)
    (hr : (coalesceH T h ids).2 = .ok eh) : EventValid (coalesceH T h ids).1 eh := by
  obtain ⟨-, hcat, htyp, -, -⟩ := ecsSlices_spec _ (hw.mono (fill_hframe (touched (kept ids (ids.map (viewAt h)))) h))
    (normChoice T (ids.map (viewAt h)))
  rw [coalesceH_eq] at hr ⊢
  dsimp only at hr ⊢
  split at hr
  · cases hr
    exact ⟨hcat, htyp⟩
  · cases hr
  · cases hr

/-- `ResolveIDsFromCaches` takes and returns the one event: it keeps every reference the
event holds and has no access to the heap, to other events or to messages. -/
theorem C15_resolve_frame (L : Lookups) (eh : EventH) :
    (resolveH L eh).pathRefs = eh.pathRefs ∧ (resolveH L eh).tagRef = eh.tagRef ∧
    (resolveH L eh).cat = eh.cat ∧ (resolveH L eh).typ = eh.typ ∧
    (resolveH L eh).core = resolveIDs L eh.core ∧
    (∀ h, EventValid h eh → EventValid h (resolveH L eh)) := by
  -- unfolded first: on `(resolveH L eh).cat = eh.cat` as it stands, `rfl` has the unifier compare `resolveH L eh`
  -- with `eh` field by field and unfold `resolveIDs` before it gives up and reduces the projection
  unfold resolveH
  exact ⟨rfl, rfl, rfl, rfl, rfl, fun _ hv => hv⟩

/-- reading a table slice of the initial heap gives the normalisation's values. -/
theorem C15_init_tables_ok : TablesOK genTables (Heap.init genTables) := init_tables_ok genTables

/-- the two heap invariants hold along every history: they hold initially (`C15_init_wf`,
`C15_init_tables_ok`) and are kept by creating messages and by `CoalesceMessages`
(`ResolveIDs` does not touch the heap). -/
theorem C15_invariants (T : Tables) (h : Heap) (hw : HeapWF h) (hok : TablesOK T h) :
    (∀ ids, HeapWF (coalesceH T h ids).1 ∧ TablesOK T (coalesceH T h ids).1) ∧
    (∀ v, HeapWF (h.newMsg v).1 ∧ TablesOK T (h.newMsg v).1) :=
  ⟨fun ids => ⟨hw.mono (coalesceH_hframe T h hw ids), hok.mono (coalesceH_hframe T h hw ids) hw⟩,
   fun v => ⟨newMsg_wf hw v, fun i => hok i⟩⟩

/-- **The event `coalesceH` returns, read through the heap it leaves, is exactly the event
the pure model `coalesce` (the subject of the C09 theorems) computes from what the messages
report** — or the same error.  So the references an event holds (message maps in `Paths`, the
`Tags` slice, table-backed `Category`/`Type` slices) read as the plain values. -/
theorem C15_deref_pure (T : Tables) (h : Heap) (hw : HeapWF h) (hok : TablesOK T h) (ids : List Nat) :
    derefO (coalesceH T h ids).1 (coalesceH T h ids).2 = coalesce T (ids.map (viewAt h)) := by
  rw [coalesceH_simulation T h hw ids, (ecsValues_pure hok _).1, (ecsValues_pure hok _).2]
  cases hco : coalesce T (ids.map (viewAt h)) with
  | err x => rfl
  | panic => rfl
  | ok e => rw [withEcs, ← (coalesce_refFields hco).2.1, ← (coalesce_refFields hco).2.2]

/-- Coalescing the same messages again, in the heap the first call left
(caches now filled, arrays possibly added), yields an event that reads exactly as the first
one does — or the same error. -/
theorem C15_repeatable (T : Tables) (h : Heap) (hw : HeapWF h) (ids : List Nat) :
    derefO (coalesceH T (coalesceH T h ids).1 ids).1 (coalesceH T (coalesceH T h ids).1 ids).2 =
    derefO (coalesceH T h ids).1 (coalesceH T h ids).2 := by
  have hf := coalesceH_hframe T h hw ids
  have hviews : ids.map (viewAt (coalesceH T h ids).1) = ids.map (viewAt h) :=
    List.map_congr_left (fun i _ => hf.view_eq i)
  rw [coalesceH_simulation T _ (hw.mono hf) ids, coalesceH_simulation T h hw ids, hviews,
    (ecsValues_frame hf hw _).1, (ecsValues_frame hf hw _).2]

/-- For any table set without negative path indexes (true of the regenerated
tables: `C15_path_index_nonneg`) `CoalesceMessages` returns an event or an error for every
list of message views, well-formed or not — it never reaches the one indexing expression
that could be out of range. -/
theorem C15_no_panic (T : Tables) (hT : ∀ n ∈ T.norms, 0 ≤ n.objectPathIndex) (views : List View) :
    coalesce T views ≠ .panic := by
  intro h
  obtain ⟨_, ni, hp, hsel⟩ := coalesce_panic h
  exact selectPath_ne_none _ _ hp (normAt_nonneg T hT ni) hsel

theorem C15_no_panic_heap (T : Tables) (hT : ∀ n ∈ T.norms, 0 ≤ n.objectPathIndex) (h : Heap) (ids : List Nat) :
    (coalesceH T h ids).2 ≠ .panic := by
  rw [coalesceH_eq]
  dsimp only
  cases hco : coalesce T (ids.map (viewAt h)) with
  | ok e => nofun
  | err x => nofun
  | panic => exact absurd hco (C15_no_panic T hT _)

/-- every cached value is what `lookupFn` answers for its key. -/
def Cache.Consistent (f : Bytes → Bytes) (c : Cache) : Prop := ∀ k it, Cache.find k c = some it → it.value = f k

theorem Cache.find_put (k k' : Bytes) (it : CacheItem) (c : Cache) :
    Cache.find k' (Cache.put k it c) = if k = k' then some it else Cache.find k' c := by
  induction c with
  | nil => rfl
  | cons p r ih =>
    unfold Cache.put
    by_cases hk : k = k'
    · subst hk; split <;> simp_all [Cache.find]
    · split <;> simp_all [Cache.find]

theorem Cache.put_consistent {f : Bytes → Bytes} {c : Cache} (hc : Cache.Consistent f c) (k : Bytes) (t : Int) :
    Cache.Consistent f (Cache.put k ⟨t, f k⟩ c) := by
  intro k' it h
  rw [Cache.find_put] at h
  split at h
  · rename_i hk; cases h; rw [hk]
  · exact hc k' it h

theorem Cache.lookup_spec (f : Bytes → Bytes) (exp : Int) (c : Cache) (hc : Cache.Consistent f c)
    (key : Bytes) (t1 t2 : Int) :
    (Cache.lookup f exp c key t1 t2).2 = cacheLookup f key ∧
    Cache.Consistent f (Cache.lookup f exp c key t1 t2).1 := by
  unfold Cache.lookup cacheLookup
  by_cases hk : key = [] ∨ key = vUnset
  · rw [if_pos hk, if_pos hk]; exact ⟨rfl, hc⟩
  · rw [if_neg hk, if_neg hk]
    cases hf : Cache.find key c with
    | none => exact ⟨rfl, Cache.put_consistent hc key _⟩
    | some it =>
      dsimp only
      split
      · exact ⟨rfl, Cache.put_consistent hc key _⟩
      · exact ⟨hc key it hf, hc⟩

/-- **Cache lookups are atomic and answer from the user database alone.**  Given that one
`stringCache.lookup` is one atomic step (it holds the mutex from the first read to the
write), every interleaving of lookups from any number of goroutines is a sequence of such
steps; for every such sequence, every clock and every expiry setting, each lookup returns
what `lookupFn` (with the hard-coded entries) answers for its key — independent of which
other events were resolved before or in between — and the cache stays consistent. -/
theorem C15_cache_atomic (f : Bytes → Bytes) (exp : Int) (c : Cache) (hc : Cache.Consistent f c)
    (sched : List (Bytes × Int × Int)) :
    (Cache.run f exp c sched).2 = sched.map (fun s => cacheLookup f s.1) ∧
    Cache.Consistent f (Cache.run f exp c sched).1 := by
  induction sched generalizing c with
  | nil => exact ⟨rfl, hc⟩
  | cons s rest ih =>
    obtain ⟨k, t1, t2⟩ := s
    have h1 := Cache.lookup_spec f exp c hc k t1 t2
    have h2 := ih (Cache.lookup f exp c k t1 t2).1 h1.2
    simp only [Cache.run, List.map_cons]
    exact ⟨by rw [h1.1, h2.1], h2.2⟩

/-! ### Go's map iteration order

`CoalesceMessages` ranges over the messages' `Data()` maps; Go visits map entries in a
different order on every call, so "coalescing again yields an equal event" needs the loops to
be insensitive to that order.  The model folds over association lists; a Go map in two
iteration orders is a list `d` and a permutation `d'` of it (keys distinct). -/

/-- the loop of `newEvent` (User.IDs, User.SELinux, Data are maps: equal as lookup functions;
every other field is not touched by the loop at all). -/
theorem C15_order_newEvent (d d' : KV) (hp : d.Perm d') (hn : NoDupKeys d) (e : Event) (k : Bytes) :
    lookup k (d'.foldl distribute e).ids = lookup k (d.foldl distribute e).ids ∧
    lookup k (d'.foldl distribute e).data = lookup k (d.foldl distribute e).data ∧
    lookup k (d'.foldl distribute e).selinux = lookup k (d.foldl distribute e).selinux ∧
    (d'.foldl distribute e).result = (d.foldl distribute e).result ∧
    (d'.foldl distribute e).session = (d.foldl distribute e).session ∧
    (d'.foldl distribute e).warnings = (d.foldl distribute e).warnings := by
  rw [foldl_distribute_eq d e, foldl_distribute_eq d' e]
  exact ⟨lookup_foldl_putIf_perm (τ := id) id (fun _ _ => rfl) hp hn _ k,
    lookup_foldl_putIf_perm (τ := id) id (fun _ _ => rfl) hp hn _ k,
    lookup_foldl_putIf_perm (kSubj_ ++ ·) (fun _ => toSelinux_restore) hp hn _ k, rfl, rfl, rfl⟩

/-- the loops of `addFieldsToEventData` and `addSockaddrRecord` (first value of a key kept,
later ones warned about): Data and Warnings are the same up to order. -/
theorem C15_order_addFields (typ : Nat) (d d' : KV) (hp : d.Perm d') (hn : NoDupKeys d) (e : Event) :
    ((d'.foldl (addField typ) e).data).Perm ((d.foldl (addField typ) e).data) ∧
    ((d'.foldl (addField typ) e).warnings).Perm ((d.foldl (addField typ) e).warnings) := by
  have h1 := foldl_addField_closed typ d hn e
  have h2 := foldl_addField_closed typ d' (hn.perm hp) e
  rw [h1.1, h1.2, h2.1, h2.2]
  exact ⟨List.Perm.append_left _ (hp.symm.filter _), List.Perm.append_left _ ((hp.symm.filter _).map _)⟩

/-! ### non-vacuity, and what the `cap = len` hypothesis excludes -/

/-- two normalisations reachable for one record type's events, as in C15's seeded YAML change:
entry 0 (record type 1700) has a category slice with spare capacity. -/
def spareT : Tables :=
  { norms := [{ (default : Norm) with ecsCategory := [b! "intrusion"], catCap := 2 },
              { (default : Norm) with ecsCategory := [b! "process"], catCap := 1 },
              { (default : Norm) with ecsCategory := [b! "network"], catCap := 1 }],
    syscalls := [(b! "ioctl", 1), (b! "sendmsg", 2)], recordTypes := [(1700, [0])],
    ranges := [], defaultCat := 0 }

/-- the same tables with full slices. -/
def fullT : Tables :=
  { spareT with norms := [{ (default : Norm) with ecsCategory := [b! "intrusion"], catCap := 1 },
              { (default : Norm) with ecsCategory := [b! "process"], catCap := 1 },
              { (default : Norm) with ecsCategory := [b! "network"], catCap := 1 }] }

def anom : View := { typ := 1700, seq := 1, ts := 1, tags := [], data := some [(b! "dev", b! "eth0")] }
def sysIoctl : View := { typ := 1300, seq := 1, ts := 1, tags := [], data := some [(kSyscall, b! "ioctl")] }
def sysSendmsg : View := { typ := 1300, seq := 2, ts := 2, tags := [], data := some [(kSyscall, b! "sendmsg")] }

def poolHeap (T : Tables) : Heap :=
  ((((Heap.init T).newMsg anom).1.newMsg sysIoctl).1.newMsg anom).1.newMsg sysSendmsg |>.1

/-- `HeapWF` holds of the initial heap of full tables (and of the regenerated ones: `C15_init_wf`). -/
example : HeapWF (poolHeap fullT) :=
  newMsg_wf (newMsg_wf (newMsg_wf (newMsg_wf (init_wf fullT (by decide +kernel)) _) _) _) _

/-- a run on it: two events held at once read `[intrusion, process]` and `[intrusion, network]`,
the first still reads the same after the second call, caches were filled. -/
example :
    (let r1 := coalesceH fullT (poolHeap fullT) [0, 1]
     let r2 := coalesceH fullT r1.1 [2, 3]
     match r1.2, r2.2 with
     | .ok e1, .ok e2 =>
       decide ((deref r1.1 e1).ecsCategory = [b! "intrusion", b! "process"]) &&
       decide ((deref r2.1 e2).ecsCategory = [b! "intrusion", b! "network"]) &&
       decide (deref r2.1 e1 = deref r1.1 e1) &&
       decide (r2.1.msgs.all (fun c => c.cache.isSome))
     | _, _ => false) = true := by decide +kernel

/-- Without `cap = len` the frame fails, and the model shows how: with one spare slot in the
table's category array, `append` writes the syscall category in place, both events alias that
array, and the second call rewrites what the first event reads. -/
example :
    (let r1 := coalesceH spareT (poolHeap spareT) [0, 1]
     let r2 := coalesceH spareT r1.1 [2, 3]
     match r1.2 with
     | .ok e1 =>
       decide ((deref r1.1 e1).ecsCategory = [b! "intrusion", b! "process"]) &&
       decide ((deref r2.1 e1).ecsCategory = [b! "intrusion", b! "network"])
     | _ => false) = true := by decide +kernel

/-- a consistent cache and a schedule with an expired entry, a hit and a miss. -/
example :
    (Cache.run (fun k => if k = b! "0" then b! "root" else []) 60 [(b! "0", ⟨5, b! "root"⟩)]
      [(b! "0", 10, 11), (b! "0", 12, 13), (b! "7", 14, 15), (vUnset, 16, 17)]).2 =
    [b! "root", b! "root", [], []] := by decide +kernel

end LA.Coalesce

/-! ### the code keeps nothing between calls that the model does not have -/

/-- Package aucoalesce keeps nothing between calls except the two id caches used by `ResolveIDs`, and package auparse
nothing at all (regenerated list, see LA.Proofs.StateFacts): `CoalesceMessages` is a function of its argument. -/
theorem C15_coalescer_keeps_nothing_between_calls : LA.StateFacts.ofPkg "aucoalesce" = LA.StateFacts.coalesceIdCaches ∧ LA.StateFacts.ofPkg "auparse" = [] :=
  ⟨LA.StateFacts.ofPkg_aucoalesce, LA.StateFacts.ofPkg_auparse⟩

/-- What package aucoalesce reads of the process it runs in is the user and group databases and the clock of the id
caches — both only under ResolveIDs — and package auparse reads nothing (`envReads`, regenerated with go/types on every
run). CoalesceMessages is a function of the messages and the tables. -/
theorem C15_environment_is_the_id_databases :
    LA.StateFacts.envOf "aucoalesce" = LA.StateFacts.coalesceEnv ∧ LA.StateFacts.envOf "auparse" = [] := ⟨LA.StateFacts.envOf_aucoalesce, LA.StateFacts.envOf_auparse⟩
