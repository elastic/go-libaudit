/-
C08 — Audit client commands report the kernel's verdict for their own request.

Setting of every theorem: a request has been handed to the endpoint and got sequence number
`own ≠ 0`; the receive queue then reads  noise ++ ts ++ [b] ++ rest  (`Dialogue`), where noise is any
number of pieces "up to nine transient failures (EINTR/EAGAIN), then an unsolicited record
(well-formed datagram with sequence 0)", `ts` is one more run of up to nine transient failures,
and `b` is any datagram of at least 16 bytes whose sequence number is not 0.  All of `ns`, `ts`,
`b`, `rest`, the client state and the request are universally quantified; no length is bounded.

`own ≠ 0`: the kernel uses sequence 0 for unsolicited records, and getReply does not skip them
when the request itself has number 0 (reachable only after 2^32 Sends on one client, see
`C18_seq_wrap`); `C08_own_zero_accepts_event` states what happens there.
-/
import LA.Proofs.ClientCmd
import LA.Proofs.StateObligations.Root
import LA.Gen.ClientFacts

namespace LA.Client
open LA.Netlink

/-- getReply reads through the noise, returns the datagram if it carries the request's sequence
number and an error naming the foreign number otherwise, and consumes exactly noise ++ ts ++ [b]:
`rest` stays queued, nothing else of the client changes. -/
theorem C08_getReply (seq : Nat) (hseq : seq ≠ 0) (s : St) {ns : List Seg} {ts : List Item} {b : Bytes}
    {rest : List Item} (d : Dialogue s.queue ns ts b rest) :
    (getReply seq s).2 =
      (if (Hdr.parse b).seq = seq then .ok { hdr := Hdr.parse b, data := b.drop 16 }
       else .error (.seqMismatch (Hdr.parse b).seq)) ∧
    Consumed s (getReply seq s).1 ((noise ns).length + ts.length + 1) rest := by
  obtain ⟨s1, hc, hg⟩ := getReply_dialogue seq hseq s d
  rw [hg]
  exact ⟨rfl, hc⟩

/-- Ten transient failures in a row (wherever they come, after any amount of noise) make getReply
give up with "no reply received", having consumed exactly those ten. -/
theorem C08_getReply_gives_up (seq : Nat) (hseq : seq ≠ 0) (s : St) (ns : List Seg) (hns : ∀ n ∈ ns, n.Ok)
    (ts : List Item) (hts : ∀ t ∈ ts, t.transient = true) (hl : ts.length = 10) (rest : List Item)
    (hq : s.queue = noise ns ++ (ts ++ rest)) :
    (getReply seq s).2 = .error .noReply ∧ Consumed s (getReply seq s).1 ((noise ns).length + 10) rest := by
  obtain ⟨s', hc, hg⟩ := getReply_noise seq hseq ns hns s _ hq
  have := tryRecv_exhaust ts hts s' rest hc.queue
  rw [hl] at this
  rw [hg, getReplyF, this]
  exact ⟨rfl, hc.trans (Consumed.update s' rest 10 s'.buf)⟩

/-- the loop's fuel is an artefact of the model: it never runs out -/
theorem C08_getReply_fuel (seq : Nat) (s : St) : (getReply seq s).2 ≠ .error .fuel := getReply_fuel seq s

/-- non-vacuity of `Dialogue`: EINTR, an event, EAGAIN, EINTR, then an ACK for request 7 -/
example : Dialogue
    [.eintr, .raw (serialize ⟨⟨0, 1300, 0, 0, 0⟩, [1]⟩), .eagain, .eintr, .raw (serialize ⟨⟨0, 2, 0, 7, 0⟩, le32 0⟩), .fail]
    [⟨[.eintr], serialize ⟨⟨0, 1300, 0, 0, 0⟩, [1]⟩⟩] [.eagain, .eintr] (serialize ⟨⟨0, 2, 0, 7, 0⟩, le32 0⟩) [.fail] :=
  ⟨rfl, List.forall_mem_singleton.mpr ⟨⟨by decide, by decide⟩, by unfold IsEvent; decide +kernel⟩,
   ⟨by decide, by decide⟩, by decide +kernel, by decide +kernel⟩

/-- the requests that wait for one ACK: AddRule, DeleteRule, every Set* in WaitForReply mode -/
inductive Req where
  | add (rule : Bytes)
  | del (rule : Bytes)
  | setSt (st : Status) (mode : Nat)

def Req.run (s : St) : Req → St × Out
  | .add r => addRule s r
  | .del r => deleteRule s r
  | .setSt st mode => set s st mode

/-- the Send it starts with -/
def Req.sent (s : St) : Req → St × Nat × Bool
  | .add r => send s AUDIT_ADD_RULE (NLM_F_REQUEST + NLM_F_ACK) r
  | .del r => send s AUDIT_DEL_RULE (NLM_F_REQUEST + NLM_F_ACK) r
  | .setSt st _ => send s AuditSet (NLM_F_REQUEST + NLM_F_ACK) st.toWire

def Req.Waits : Req → Prop
  | .setSt _ mode => mode ≠ NoWait
  | _ => True

theorem Req.run_eq (r : Req) (hw : r.Waits) (s : St) : r.run s = sendThen .fail (r.sent s) awaitAck := by
  cases r with
  | add rule => exact addRule_eq s rule
  | del rule => exact deleteRule_eq s rule
  | setSt st mode => rw [Req.run, set_eq]; simp only [Req.sent, if_neg hw]

/-- every Set* method is `set` with a one-field status (so the theorems about `Req.setSt` are about them) -/
theorem C08_setters_are_set (s : St) (v : Nat) (e : Bool) (w : Int) (wm : Nat) :
    setRateLimit s v wm = set s { mask := AuditStatusRateLimit, rateLimit := v } wm ∧
    setBacklogLimit s v wm = set s { mask := AuditStatusBacklogLimit, backlogLimit := v } wm ∧
    setEnabled s e wm = set s { mask := AuditStatusEnabled, enabled := if e then 1 else 0 } wm ∧
    setImmutable s wm = set s { mask := AuditStatusEnabled, enabled := 2 } wm ∧
    setFailure s v wm = set s { mask := AuditStatusFailure, failure := v } wm ∧
    setBacklogWaitTime s w wm = set s { mask := AuditStatusBacklogWaitTime, backlogWaitTime := u32OfInt w } wm ∧
    setPID s v wm = set { s with clearPID := true } { mask := AuditStatusPID, pid := v } wm :=
  ⟨rfl, rfl, rfl, rfl, rfl, rfl, rfl⟩

/-- The verdict.  The command's result is the verdict `b` carries for the request's own sequence
number: success iff `b` has that number, type NLMSG_ERROR and errno 0; the kernel's errno if it has
one; an error otherwise — and the command consumed exactly its own dialogue. -/
theorem C08_command_verdict (r : Req) (hw : r.Waits) (s : St) (hs : (r.sent s).2.2 = true)
    (hown : (r.sent s).2.1 ≠ 0) {ns : List Seg} {ts : List Item} {b : Bytes} {rest : List Item}
    (d : Dialogue (r.sent s).1.queue ns ts b rest) :
    (r.run s).2 = outOfVerdict (verdict (r.sent s).2.1 b) ∧
    Consumed (r.sent s).1 (r.run s).1 ((noise ns).length + ts.length + 1) rest := by
  obtain ⟨s2, hc, he⟩ := ackThen_dialogue Out.fail (fun s2 => (s2, Out.ok .none)) _ hown _ d
  rw [r.run_eq hw s, sendThen, if_pos hs, awaitAck, he]
  cases verdict (r.sent s).2.1 b <;> exact ⟨rfl, hc⟩

/-- nil ⇔ the request's own ACK carries errno 0 -/
theorem C08_command_ok_iff (r : Req) (hw : r.Waits) (s : St) (hs : (r.sent s).2.2 = true)
    (hown : (r.sent s).2.1 ≠ 0) {ns : List Seg} {ts : List Item} {b : Bytes} {rest : List Item}
    (d : Dialogue (r.sent s).1.queue ns ts b rest) :
    (r.run s).2 = .ok .none ↔
      (Hdr.parse b).seq = (r.sent s).2.1 ∧ (Hdr.parse b).typ = NLMSG_ERROR ∧ 20 ≤ b.length ∧ rd32 b 16 = 0 := by
  rw [(C08_command_verdict r hw s hs hown d).1, outOfVerdict_ok_iff, verdict_none_iff]

/-- otherwise the error determines the errno: an own-sequence NLMSG_ERROR whose payload word is
`-e` (two's complement, 1 ≤ e < 2^31) makes the command fail with exactly errno `e` -/
theorem C08_command_errno (r : Req) (hw : r.Waits) (s : St) (hs : (r.sent s).2.2 = true)
    (hown : (r.sent s).2.1 ≠ 0) {ns : List Seg} {ts : List Item} {b : Bytes} {rest : List Item}
    (d : Dialogue (r.sent s).1.queue ns ts b rest)
    (h0 : (Hdr.parse b).seq = (r.sent s).2.1) (h1 : (Hdr.parse b).typ = NLMSG_ERROR) (h2 : 20 ≤ b.length)
    (e : Nat) (he1 : 1 ≤ e) (he2 : e < 2147483648) (hw32 : rd32 b 16 = 4294967296 - e) :
    (r.run s).2 = .fail (.errno e) := by
  rw [(C08_command_verdict r hw s hs hown d).1, verdict_errno _ b h0 h1 h2 (by omega), hw32, errnoOf_neg e he1 he2]
  rfl

theorem C08_addRule_verdict (rule : Bytes) (s : St) (hs : (Req.sent s (.add rule)).2.2 = true)
    (hown : (Req.sent s (.add rule)).2.1 ≠ 0) {ns : List Seg} {ts : List Item} {b : Bytes} {rest : List Item}
    (d : Dialogue (Req.sent s (.add rule)).1.queue ns ts b rest) :
    ((addRule s rule).2 = .ok .none ↔
      (Hdr.parse b).seq = (Req.sent s (.add rule)).2.1 ∧ (Hdr.parse b).typ = NLMSG_ERROR ∧ 20 ≤ b.length ∧
      rd32 b 16 = 0) ∧
    (addRule s rule).1.queue = rest :=
  ⟨C08_command_ok_iff (.add rule) trivial s hs hown d, (C08_command_verdict (.add rule) trivial s hs hown d).2.queue⟩

theorem C08_deleteRule_verdict (rule : Bytes) (s : St) (hs : (Req.sent s (.del rule)).2.2 = true)
    (hown : (Req.sent s (.del rule)).2.1 ≠ 0) {ns : List Seg} {ts : List Item} {b : Bytes} {rest : List Item}
    (d : Dialogue (Req.sent s (.del rule)).1.queue ns ts b rest) :
    ((deleteRule s rule).2 = .ok .none ↔
      (Hdr.parse b).seq = (Req.sent s (.del rule)).2.1 ∧ (Hdr.parse b).typ = NLMSG_ERROR ∧ 20 ≤ b.length ∧
      rd32 b 16 = 0) ∧
    (deleteRule s rule).1.queue = rest :=
  ⟨C08_command_ok_iff (.del rule) trivial s hs hown d,
   (C08_command_verdict (.del rule) trivial s hs hown d).2.queue⟩

theorem C08_set_verdict (st : Status) (mode : Nat) (hm : mode ≠ NoWait) (s : St)
    (hs : (Req.sent s (.setSt st mode)).2.2 = true) (hown : (Req.sent s (.setSt st mode)).2.1 ≠ 0)
    {ns : List Seg} {ts : List Item} {b : Bytes} {rest : List Item}
    (d : Dialogue (Req.sent s (.setSt st mode)).1.queue ns ts b rest) :
    ((set s st mode).2 = .ok .none ↔
      (Hdr.parse b).seq = (Req.sent s (.setSt st mode)).2.1 ∧ (Hdr.parse b).typ = NLMSG_ERROR ∧ 20 ≤ b.length ∧
      rd32 b 16 = 0) ∧
    (set s st mode).1.queue = rest :=
  ⟨C08_command_ok_iff (.setSt st mode) hm s hs hown d, (C08_command_verdict (.setSt st mode) hm s hs hown d).2.queue⟩

/-- A reply carrying another request's sequence number is never a success, whatever it says. -/
theorem C08_foreign_never_ok (r : Req) (hw : r.Waits) (s : St) (hs : (r.sent s).2.2 = true)
    (hown : (r.sent s).2.1 ≠ 0) {ns : List Seg} {ts : List Item} {b : Bytes} {rest : List Item}
    (d : Dialogue (r.sent s).1.queue ns ts b rest) (hf : (Hdr.parse b).seq ≠ (r.sent s).2.1) :
    (r.run s).2 = .fail (.seqMismatch (Hdr.parse b).seq) := by
  rw [(C08_command_verdict r hw s hs hown d).1, verdict_foreign _ b hf]
  rfl

/-- a request that could not be sent fails without reading anything -/
theorem C08_send_failure (r : Req) (hw : r.Waits) (s : St) (hs : (r.sent s).2.2 = false) :
    r.run s = ((r.sent s).1, .fail .send) := by
  rw [r.run_eq hw s, sendThen, hs]
  rfl

/-- non-vacuity, end to end: AddRule, the kernel answers EPERM after an event and an EINTR -/
example :
    (addRule { St.init 0 64 true with plans := [{ items := [⟨.raw (serialize ⟨⟨0, 1300, 0, 0, 0⟩, [1]⟩), none⟩, ⟨.eintr, none⟩,
        ⟨.raw (serialize ⟨⟨0, 2, 0, 0, 0⟩, le32 (4294967296 - 1)⟩), some 0⟩] }] } [9, 9]).2 = .fail (.errno 1) := by
  decide +kernel

/-- GetStatus: if the request's ACK is not a success, that verdict is the result; if it is, the
next non-noise datagram must carry the request's number and type AUDIT_GET and at least 32 bytes,
and then the result is the status decoded from it — otherwise an error.  Exactly the two
dialogues are consumed. -/
theorem C08_getStatus_verdict (s : St) (hs : (getStatusAsync s true).2.2 = true)
    (hown : (getStatusAsync s true).2.1 ≠ 0) {ns : List Seg} {ts : List Item} {b : Bytes} {rest : List Item}
    (d : Dialogue (getStatusAsync s true).1.queue ns ts b rest) :
    (∀ e, verdict (getStatusAsync s true).2.1 b = some e →
        (getStatus s).2 = .fail e ∧ (getStatus s).1.queue = rest) ∧
    (verdict (getStatusAsync s true).2.1 b = none →
      ∀ {ns2 : List Seg} {ts2 : List Item} {b2 : Bytes} {rest2 : List Item}, Dialogue rest ns2 ts2 b2 rest2 →
        (getStatus s).2 = statusReply (getStatusAsync s true).2.1 b2 ∧ (getStatus s).1.queue = rest2) := by
  obtain ⟨s2, hc, he⟩ := ackThen_dialogue .fail (statusTail (getStatusAsync s true).2.1) _ hown _ d
  rw [getStatus_eq, sendThen, if_pos hs, he]
  refine ⟨fun e hv => by rw [hv]; exact ⟨rfl, hc.queue⟩, fun hv _ _ _ _ d2 => ?_⟩
  obtain ⟨hr, hc2⟩ := statusTail_dialogue _ hown s2 (hc.queue ▸ d2)
  rw [hv]; exact ⟨hr, hc2.queue⟩

/-- data exact (status): when the reply carries a full audit_status, the struct returned has
exactly the kernel's first 44 payload bytes as its memory image -/
theorem C08_data_exact_status (own : Nat) (b2 : Bytes) (h0 : (Hdr.parse b2).seq = own)
    (h1 : (Hdr.parse b2).typ = AuditGet) (h2 : 16 + 44 ≤ b2.length) :
    ∃ st, statusReply own b2 = .ok (.status st) ∧ st.toWire = (b2.drop 16).take 44 := by
  have hl : 44 ≤ (b2.drop 16).length := by simp; omega
  refine ⟨Status.ofBytes (b2.drop 16), ?_, toWire_ofBytes _ hl⟩
  rw [statusReply, if_neg (by simpa using h0), if_neg (by simpa using h1), fromWire_eq, if_neg (by omega)]

/-- GetRules: after a successful ACK, a complete listing (any number of AUDIT_LIST_RULES messages
of the request's sequence, each behind any noise, then NLMSG_DONE) yields copies of exactly the
payloads the kernel sent, in order, and consumes exactly the listing. -/
theorem C08_getRules_exact (s : St)
    (hs : (send s AUDIT_LIST_RULES (NLM_F_REQUEST + NLM_F_ACK) []).2.2 = true)
    (hown : (send s AUDIT_LIST_RULES (NLM_F_REQUEST + NLM_F_ACK) []).2.1 ≠ 0)
    {ns : List Seg} {ts : List Item} {b : Bytes} {rest : List Item}
    (d : Dialogue (send s AUDIT_LIST_RULES (NLM_F_REQUEST + NLM_F_ACK) []).1.queue ns ts b rest)
    (hv : verdict (send s AUDIT_LIST_RULES (NLM_F_REQUEST + NLM_F_ACK) []).2.1 b = none)
    (rs : List RuleMsg) (hrs : ∀ r ∈ rs, r.Ok (send s AUDIT_LIST_RULES (NLM_F_REQUEST + NLM_F_ACK) []).2.1)
    {nsD : List Seg} {tsD : List Item} {done : Bytes} {q rest2 : List Item}
    (hdone : (Hdr.parse done).seq = (send s AUDIT_LIST_RULES (NLM_F_REQUEST + NLM_F_ACK) []).2.1 ∧
             (Hdr.parse done).typ = NLMSG_DONE)
    (dD : Dialogue q nsD tsD done rest2) (hrest : rest = listing rs ++ q) :
    (getRules s).2 = .ok (.rules (rs.map fun r => .owned (r.b.drop 16))) ∧ (getRules s).1.queue = rest2 := by
  obtain ⟨s2, hc, he⟩ := ackThen_dialogue .error
    (fun s2 => rulesLoop (send s AUDIT_LIST_RULES (NLM_F_REQUEST + NLM_F_ACK) []).2.1 (s2.queue.length + 1) s2 []) _ hown _ d
  obtain ⟨s', hl, hq'⟩ := rulesLoop_listing _ hown rs hrs hdone s2 q dD (by rw [hc.queue, hrest])
    (s2.queue.length + 1) (Nat.lt_succ_self _) []
  rw [getRules, getRulesE_eq, sendThen, if_pos hs, he, hv, hl]
  exact ⟨by simp, hq'⟩

/-- DeleteRules: the result is the count of listed rules exactly when every one of them was
deleted by its own DeleteRule request (each of which obeys `C08_deleteRule_verdict`), and
otherwise the error of the first deletion that failed (or of the listing). -/
theorem C08_deleteRules_verdict (s : St) :
    (∀ s1 e, getRulesE s = (s1, .error e) → deleteRules s = (s1, .fail e)) ∧
    (∀ s1 rs, getRulesE s = (s1, .ok rs) →
      (∀ s2, deleteRules s = (s2, .ok (.count rs.length)) ↔ AllDeleted rs s1 s2) ∧
      (∀ s2 e, deleteRules s = (s2, .fail e) ↔ FirstFailure rs s1 s2 e)) := by
  refine ⟨fun s1 e h => by unfold deleteRules; rw [h], fun s1 rs h => ?_⟩
  obtain ⟨h1, h2⟩ := deleteLoop_spec rs s1
  simp only [← h1, ← h2]
  unfold deleteRules
  rw [h]
  simp only
  cases deleteLoop rs s1 with
  | mk s3 o => cases o <;> simp

/-- what is outside the property's domain, stated: a request whose own sequence number is 0 takes
an unsolicited record for its reply -/
theorem C08_own_zero_accepts_event (s : St) (ev : Bytes) (hev : IsEvent ev) (rest : List Item)
    (hq : s.queue = .raw ev :: rest) :
    (getReply 0 s).2 = .ok { hdr := Hdr.parse ev, data := ev.drop 16 } := by
  rw [getReply, getReplyF, tryRecv_datagram [] (by simp) (by simp) s ev hev.1 rest (by simpa using hq)]
  simp [hev.2]

end LA.Client

/-! ### the code keeps nothing between calls that the model does not have -/

/-- Outside `init`, no function of the root package writes a package-level variable, hands the address of one to a function or calls a
sync/atomic method on one (regenerated list, see LA.Proofs.StateFacts): all state is in the object the model is given. -/
theorem C08_state_is_in_the_object : LA.StateFacts.ofPkg "" = [] := LA.StateFacts.ofPkg_root

/-- The wait for a reply is bounded by what arrives, not by a clock: audit.go and netlink.go call nothing that reads a
clock or arms a timer or a deadline (`clientClocks`, regenerated with go/types on every run: package-level functions of
package time other than Sleep, anything of package context, Set…Deadline methods). The model's `getReply` skips any
number of unsolicited records, each after up to nine transient failures, and then reports the kernel's verdict
(`C08_getReply` above holds for every queue length); a wait that also gives up when some amount of wall-clock time
has passed reports a failure for a request the kernel acknowledged — after a wait (five seconds, thirty, an hour) that
no check can reproduce for every conceivable limit, which is why it is an obligation and the direct probe
(`probe-long-wait` in the client driver) only covers limits of a few seconds. -/
theorem C08_reply_wait_reads_no_clock : LA.Gen.ClientFacts.clientClocks = [] := by rfl

/-- What the root package reads of the process it runs in is the clock (the Reassembler's deadlines, which the model is
given as readings), the process id (an input of SetPID) and the page size (the default receive buffer): `envReads`,
regenerated with go/types on every run, lists the package-level functions of os, os/user, os/exec, net, runtime,
math/rand, crypto/rand that are called, time.Now / Since / Until, file-system functions of path/filepath and process
queries of syscall. Nothing else of the machine — processors, environment variables, files, random numbers — can
influence what the Reassembler or the client does. -/
theorem C08_environment_is_clock_pid_pagesize : LA.StateFacts.envOf "" = LA.StateFacts.rootEnv := LA.StateFacts.envOf_root
