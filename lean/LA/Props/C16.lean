/-
C16 — Audit status messages encode and decode per the kernel's audit_status layout.

`LA.Gen.ClientConsts` is regenerated from audit.go / netlink.go on every run (go/types constant
evaluation, types.Sizes for gc/amd64); `LA.Spec.Uapi` is the hand-written oracle.  Bytes sent are
decoded with the oracle's own decoder (`Uapi.decode`), not with the model's readers.
-/
import LA.Proofs.ClientCmd
import LA.Proofs.Uapi
import LA.Gen.ClientConsts
import LA.Gen.ClientFacts
import LA.Proofs.StateObligations.Root

namespace LA.Client
open LA.Netlink LA.Spec

/-- The exported names carry the kernel's numbers; the Go struct has the kernel's layout
(field for field, by name, offset and size); the two size constants are 44 and 32; the constants
taken from auparse and syscall are the kernel's too.  Re-checked against the regenerated
`Gen.ClientConsts` on every run. -/
theorem C16_constants :
    (Gen.ClientConsts.AuditGet = Uapi.AUDIT_GET ∧ Gen.ClientConsts.AuditSet = Uapi.AUDIT_SET) ∧
    (Gen.ClientConsts.SilentOnFailure = Uapi.AUDIT_FAIL_SILENT ∧ Gen.ClientConsts.LogOnFailure = Uapi.AUDIT_FAIL_PRINTK ∧
     Gen.ClientConsts.PanicOnFailure = Uapi.AUDIT_FAIL_PANIC) ∧
    (Gen.ClientConsts.AuditStatusEnabled = Uapi.AUDIT_STATUS_ENABLED ∧
     Gen.ClientConsts.AuditStatusFailure = Uapi.AUDIT_STATUS_FAILURE ∧
     Gen.ClientConsts.AuditStatusPID = Uapi.AUDIT_STATUS_PID ∧
     Gen.ClientConsts.AuditStatusRateLimit = Uapi.AUDIT_STATUS_RATE_LIMIT ∧
     Gen.ClientConsts.AuditStatusBacklogLimit = Uapi.AUDIT_STATUS_BACKLOG_LIMIT ∧
     Gen.ClientConsts.AuditStatusBacklogWaitTime = Uapi.AUDIT_STATUS_BACKLOG_WAIT_TIME ∧
     Gen.ClientConsts.AuditStatusLost = Uapi.AUDIT_STATUS_LOST) ∧
    (Gen.ClientConsts.AuditFeatureBitmapBacklogLimit = Uapi.AUDIT_FEATURE_BITMAP_BACKLOG_LIMIT ∧
     Gen.ClientConsts.AuditFeatureBitmapBacklogWaitTime = Uapi.AUDIT_FEATURE_BITMAP_BACKLOG_WAIT_TIME ∧
     Gen.ClientConsts.AuditFeatureBitmapExecutablePath = Uapi.AUDIT_FEATURE_BITMAP_EXECUTABLE_PATH ∧
     Gen.ClientConsts.AuditFeatureBitmapExcludeExtend = Uapi.AUDIT_FEATURE_BITMAP_EXCLUDE_EXTEND ∧
     Gen.ClientConsts.AuditFeatureBitmapSessionIDFilter = Uapi.AUDIT_FEATURE_BITMAP_SESSIONID_FILTER ∧
     Gen.ClientConsts.AuditFeatureBitmapLostReset = Uapi.AUDIT_FEATURE_BITMAP_LOST_RESET) ∧
    (Gen.ClientConsts.AuditMessageMaxLength = Uapi.MAX_AUDIT_MESSAGE_LENGTH ∧
     Gen.ClientConsts.NetlinkGroupNone = Uapi.AUDIT_NLGRP_NONE ∧ Gen.ClientConsts.NetlinkGroupReadLog = Uapi.AUDIT_NLGRP_READLOG) ∧
    (Gen.ClientConsts.auditStatusFields.map (fun f => (Uapi.cName f.1, f.2.1, f.2.2)) = Uapi.auditStatus ∧
     Gen.ClientConsts.auditStatusSize = Uapi.sizeofAuditStatus ∧
     Gen.ClientConsts.sizeofAuditStatus = Uapi.sizeofAuditStatus ∧
     Gen.ClientConsts.MinSizeofAuditStatus = Uapi.sizeofAuditStatus_2_6_32) ∧
    (Gen.ClientConsts.AUDIT_ADD_RULE = Uapi.AUDIT_ADD_RULE ∧ Gen.ClientConsts.AUDIT_DEL_RULE = Uapi.AUDIT_DEL_RULE ∧
     Gen.ClientConsts.AUDIT_LIST_RULES = Uapi.AUDIT_LIST_RULES) ∧
    (Gen.ClientConsts.NLMSG_ERROR = Uapi.NLMSG_ERROR ∧ Gen.ClientConsts.NLMSG_DONE = Uapi.NLMSG_DONE ∧
     Gen.ClientConsts.NLM_F_REQUEST = Uapi.NLM_F_REQUEST ∧ Gen.ClientConsts.NLM_F_ACK = Uapi.NLM_F_ACK ∧
     Gen.ClientConsts.NLMSG_HDRLEN = Uapi.NLMSG_HDRLEN ∧ Gen.ClientConsts.SizeofNlMsghdr = Uapi.NLMSG_HDRLEN ∧
     Gen.ClientConsts.nlMsghdrFields.map (fun f => (Uapi.nlName f.1, f.2.1, f.2.2)) = Uapi.nlmsghdr ∧
     Gen.ClientConsts.nlMsghdrSize = Uapi.NLMSG_HDRLEN) := by
  decide +kernel

/-- the wait modes the models compare against are the library's -/
theorem C16_wait_modes : Gen.ClientConsts.WaitForReply = WaitForReply ∧ Gen.ClientConsts.NoWait = NoWait := by decide

/-- the hand-written models use the same numbers as the oracle -/
theorem C16_model_constants :
    (AuditGet = Uapi.AUDIT_GET ∧ AuditSet = Uapi.AUDIT_SET ∧ AUDIT_ADD_RULE = Uapi.AUDIT_ADD_RULE ∧
     AUDIT_DEL_RULE = Uapi.AUDIT_DEL_RULE ∧ AUDIT_LIST_RULES = Uapi.AUDIT_LIST_RULES) ∧
    (AuditStatusEnabled = Uapi.AUDIT_STATUS_ENABLED ∧ AuditStatusFailure = Uapi.AUDIT_STATUS_FAILURE ∧
     AuditStatusPID = Uapi.AUDIT_STATUS_PID ∧ AuditStatusRateLimit = Uapi.AUDIT_STATUS_RATE_LIMIT ∧
     AuditStatusBacklogLimit = Uapi.AUDIT_STATUS_BACKLOG_LIMIT ∧
     AuditStatusBacklogWaitTime = Uapi.AUDIT_STATUS_BACKLOG_WAIT_TIME ∧ AuditStatusLost = Uapi.AUDIT_STATUS_LOST) ∧
    (sizeofAuditStatus = Uapi.sizeofAuditStatus ∧ MinSizeofAuditStatus = Uapi.sizeofAuditStatus_2_6_32) ∧
    (Netlink.NLMSG_ERROR = Uapi.NLMSG_ERROR ∧ Netlink.NLMSG_DONE = Uapi.NLMSG_DONE ∧
     Netlink.NLM_F_REQUEST = Uapi.NLM_F_REQUEST ∧ Netlink.NLM_F_ACK = Uapi.NLM_F_ACK ∧
     Netlink.NLMSG_HDRLEN = Uapi.NLMSG_HDRLEN) := by
  decide

/-- the eleven fields as the kernel names them -/
def named (w : List Nat) : List (String × Nat) := (Uapi.auditStatus.map (·.1)).zip w

/-- every field fits a uint32 -/
def Status.WF (s : Status) : Prop := ∀ w ∈ s.words, w < 4294967296

theorem decode_auditStatus (b : Bytes) : Uapi.decode Uapi.auditStatus b = named (Status.ofBytes b).words := by
  simp only [Uapi.decode, Uapi.auditStatus, List.map_cons, List.map_nil, uapi_field4, named, Status.words, Status.ofBytes,
    List.zip_cons_cons, List.zip_nil_right]

/-- Layout: `toWireFormat` is 44 bytes; decoded at the kernel's offsets each field of the C struct
has the value of the Go field of the same name. -/
theorem C16_layout (s : Status) (hw : s.WF) :
    s.toWire.length = Uapi.sizeofAuditStatus ∧ Uapi.decode Uapi.auditStatus s.toWire = named s.words := by
  refine ⟨toWire_length s, ?_⟩
  rw [decode_auditStatus, ofBytes_toWire, List.map_congr_left fun w hm => Nat.mod_eq_of_lt (hw w hm), List.map_id']

/-- what one setter must put on the wire: one new message of type AUDIT_SET with flags
NLM_F_REQUEST|NLM_F_ACK whose payload is a full audit_status that the oracle decodes to `fields` -/
def SendsStatus (before after : List Sent) (fields : List (String × Nat)) : Prop :=
  ∃ m, after = before ++ [m] ∧ m.typ = Uapi.AUDIT_SET ∧ m.flags = Uapi.NLM_F_REQUEST + Uapi.NLM_F_ACK ∧
    m.data.length = Uapi.sizeofAuditStatus ∧ Uapi.decode Uapi.auditStatus m.data = fields

theorem set_sends (s : St) (st : Status) (mode : Nat) (hw : st.WF) :
    SendsStatus s.sent (set s st mode).1.sent (named st.words) :=
  ⟨_, set_sent s st mode, rfl, rfl, C16_layout st hw⟩

theorem u32OfInt_lt (w : Int) : u32OfInt w < 4294967296 := by
  unfold u32OfInt; omega

/-- Every Set* command — for every argument value of its Go type, in either wait mode (any `wm`),
whatever the kernel then answers — sends exactly one AUDIT_SET request with REQUEST|ACK whose
payload is a full-size audit_status carrying exactly that setting's mask bit and the requested
value in its field, all other fields zero.  (`pid` is what os.Getpid() returned.) -/
theorem C16_setters (s : St) (wm : Nat) (v : Nat) (hv : v < 4294967296) (e : Bool) (w : Int) :
    SendsStatus s.sent (setPID s v wm).1.sent
      [("mask", Uapi.AUDIT_STATUS_PID), ("enabled", 0), ("failure", 0), ("pid", v), ("rate_limit", 0), ("backlog_limit", 0),
       ("lost", 0), ("backlog", 0), ("feature_bitmap", 0), ("backlog_wait_time", 0), ("backlog_wait_time_actual", 0)] ∧
    SendsStatus s.sent (setRateLimit s v wm).1.sent
      [("mask", Uapi.AUDIT_STATUS_RATE_LIMIT), ("enabled", 0), ("failure", 0), ("pid", 0), ("rate_limit", v), ("backlog_limit", 0),
       ("lost", 0), ("backlog", 0), ("feature_bitmap", 0), ("backlog_wait_time", 0), ("backlog_wait_time_actual", 0)] ∧
    SendsStatus s.sent (setBacklogLimit s v wm).1.sent
      [("mask", Uapi.AUDIT_STATUS_BACKLOG_LIMIT), ("enabled", 0), ("failure", 0), ("pid", 0), ("rate_limit", 0), ("backlog_limit", v),
       ("lost", 0), ("backlog", 0), ("feature_bitmap", 0), ("backlog_wait_time", 0), ("backlog_wait_time_actual", 0)] ∧
    SendsStatus s.sent (setEnabled s e wm).1.sent
      [("mask", Uapi.AUDIT_STATUS_ENABLED), ("enabled", if e then 1 else 0), ("failure", 0), ("pid", 0), ("rate_limit", 0),
       ("backlog_limit", 0), ("lost", 0), ("backlog", 0), ("feature_bitmap", 0), ("backlog_wait_time", 0),
       ("backlog_wait_time_actual", 0)] ∧
    SendsStatus s.sent (setImmutable s wm).1.sent
      [("mask", Uapi.AUDIT_STATUS_ENABLED), ("enabled", 2), ("failure", 0), ("pid", 0), ("rate_limit", 0), ("backlog_limit", 0),
       ("lost", 0), ("backlog", 0), ("feature_bitmap", 0), ("backlog_wait_time", 0), ("backlog_wait_time_actual", 0)] ∧
    SendsStatus s.sent (setFailure s v wm).1.sent
      [("mask", Uapi.AUDIT_STATUS_FAILURE), ("enabled", 0), ("failure", v), ("pid", 0), ("rate_limit", 0), ("backlog_limit", 0),
       ("lost", 0), ("backlog", 0), ("feature_bitmap", 0), ("backlog_wait_time", 0), ("backlog_wait_time_actual", 0)] ∧
    SendsStatus s.sent (setBacklogWaitTime s w wm).1.sent
      [("mask", Uapi.AUDIT_STATUS_BACKLOG_WAIT_TIME), ("enabled", 0), ("failure", 0), ("pid", 0), ("rate_limit", 0),
       ("backlog_limit", 0), ("lost", 0), ("backlog", 0), ("feature_bitmap", 0), ("backlog_wait_time", (w % 4294967296).toNat),
       ("backlog_wait_time_actual", 0)] := by
  -- the status each setter hands to `set` is found by unification; what is left is that its words fit
  refine ⟨?_, ?_, ?_, ?_, ?_, ?_, ?_⟩
  · exact set_sends { s with clearPID := true } _ wm (by simp [Status.WF, Status.words, AuditStatusPID, hv])
  · exact set_sends _ _ wm (by simp [Status.WF, Status.words, AuditStatusRateLimit, hv])
  · exact set_sends _ _ wm (by simp [Status.WF, Status.words, AuditStatusBacklogLimit, hv])
  · exact set_sends _ _ wm (by cases e <;> simp [Status.WF, Status.words, AuditStatusEnabled])
  · exact set_sends _ _ wm (by simp [Status.WF, Status.words, AuditStatusEnabled])
  · exact set_sends _ _ wm (by simp [Status.WF, Status.words, AuditStatusFailure, hv])
  · exact set_sends _ _ wm (by simp [Status.WF, Status.words, AuditStatusBacklogWaitTime, u32OfInt_lt])

/-- for an int32 argument the field holds its two's-complement reading: -1 ↦ 0xFFFFFFFF -/
example : u32OfInt (-1) = 4294967295 ∧ u32OfInt (-2147483648) = 2147483648 ∧ u32OfInt 2147483647 = 2147483647 := by decide

/-- non-vacuity: SetFailure(PanicOnFailure) in NoWait mode on a fresh client -/
example : (setFailure (St.init 0 64 true) Uapi.AUDIT_FAIL_PANIC NoWait).1.sent =
    [⟨1001, 5, 1, [2,0,0,0, 0,0,0,0, 2,0,0,0, 0,0,0,0, 0,0,0,0, 0,0,0,0, 0,0,0,0, 0,0,0,0, 0,0,0,0, 0,0,0,0, 0,0,0,0]⟩] := by
  decide +kernel

/-- GetStatus / GetStatusAsync send AUDIT_GET with an empty payload; NLM_F_ACK is set exactly when
an acknowledgement is required (GetStatus always requires it). -/
theorem C16_get (s : St) (requireACK : Bool) :
    (getStatusAsync s requireACK).1.sent =
      s.sent ++ [⟨Uapi.AUDIT_GET, if requireACK then Uapi.NLM_F_REQUEST + Uapi.NLM_F_ACK else Uapi.NLM_F_REQUEST,
                  (s.seq + 1) % 4294967296, []⟩] ∧
    (getStatusAsync s requireACK).2.1 = (s.seq + 1) % 4294967296 ∧
    (getStatus s).1.sent = s.sent ++ [⟨Uapi.AUDIT_GET, Uapi.NLM_F_REQUEST + Uapi.NLM_F_ACK, (s.seq + 1) % 4294967296, []⟩] := by
  exact ⟨by cases requireACK <;> rfl, rfl, (getStatus_frame s).sent⟩

/-- FromWireFormat by length.  Fewer than 32 bytes: io.ErrUnexpectedEOF.  Otherwise success, and
the receiver's memory image is the buffer's first 44 bytes followed by zeros up to 44 — so byte
`i` of the struct is `buf[i]` for `i < min(len, 44)` and 0 beyond, whatever the receiver held
before; decoded at the kernel's offsets, each field is the little-endian word of that image.

PARTIAL: the property's clause "never reads outside the buffer" is not part of this theorem.  In the
Go code it is the semantics of the builtin `copy` (never more than `len(src)` bytes), which `copyInto`
models by taking a prefix of the source list; the monitor checks it on the real code by decoding
buffers that sit inside a sentinel-filled arena. -/
theorem C16_from_wire_partial (recv : Status) (buf : Bytes) :
    (buf.length < Uapi.sizeofAuditStatus_2_6_32 → fromWire recv buf = none) ∧
    (Uapi.sizeofAuditStatus_2_6_32 ≤ buf.length →
      ∃ st, fromWire recv buf = some st ∧
        st.toWire = buf.take 44 ++ List.replicate (44 - buf.length) 0 ∧
        named st.words = Uapi.decode Uapi.auditStatus (buf.take 44 ++ List.replicate (44 - buf.length) 0)) := by
  refine ⟨fun (h : _ < 32) => ?_, fun (h : 32 ≤ _) => ?_⟩
  · rw [fromWire_eq, if_pos h]
  · have hl : (buf.take 44 ++ List.replicate (44 - buf.length) (0 : UInt8)).length = 44 := by
      rw [List.length_append, List.length_take, List.length_replicate]; omega
    refine ⟨Status.ofBytes (buf.take 44 ++ List.replicate (44 - buf.length) 0), ?_, ?_, (decode_auditStatus _).symm⟩
    · rw [fromWire, fromWireBytes_eq, if_neg (Nat.not_lt.mpr h)]; rfl
    · rw [toWire_ofBytes _ (Nat.le_of_eq hl.symm), List.take_of_length_le (Nat.le_of_eq hl)]

/-- trailing bytes are ignored, and the receiver's previous content never shows -/
theorem C16_from_wire_trailing (recv recv' : Status) (buf extra : Bytes) (h : 44 ≤ buf.length) :
    fromWire recv (buf ++ extra) = fromWire recv' buf := by
  rw [fromWire_eq, fromWire_eq, if_neg (by rw [List.length_append]; omega), if_neg (by omega), ← ofBytes_take,
    List.take_append_of_le_length h, ofBytes_take]

theorem C16_from_wire_receiver_irrelevant (recv recv' : Status) (buf : Bytes) : fromWire recv buf = fromWire recv' buf := by
  rw [fromWire_eq, fromWire_eq]

/-- non-vacuity: a 2.6.32 reply (32 bytes) into a dirty receiver leaves the last three fields 0 -/
example : fromWire { featureBitmap := 7, backlogWaitTime := 8, backlogWaitTimeActual := 9 }
      (List.replicate 32 1) =
    some { mask := 16843009, enabled := 16843009, failure := 16843009, pid := 16843009, rateLimit := 16843009,
           backlogLimit := 16843009, lost := 16843009, backlog := 16843009 } := by
  simp only [fromWire, fromWireBytes_eq]; decide +kernel

/-- the receiver used by the translator's probe: all eleven fields 0xAAAAAAAA -/
def probeRecv : Status :=
  { mask := 2863311530, enabled := 2863311530, failure := 2863311530, pid := 2863311530, rateLimit := 2863311530,
    backlogLimit := 2863311530, lost := 2863311530, backlog := 2863311530, featureBitmap := 2863311530,
    backlogWaitTime := 2863311530, backlogWaitTimeActual := 2863311530 }

/-- FromWireFormat as a function of the buffer length, tied to the running library for every length
0..80 (below, between and above the two size thresholds, lengths that end inside a field
included): `Gen.ClientFacts.fromWireByLength` is regenerated on every run by decoding a buffer of
that many 0x55 bytes into a receiver full of 0xAA, so each byte of the result says whether it was
copied, zeroed or left over; the model's `fromWire` yields the same error / the same eleven words
for every length in the table. (For arbitrary contents see `C16_from_wire_partial`,
`C16_from_wire_trailing`, `C16_from_wire_receiver_irrelevant`.) -/
theorem C16_from_wire_by_length :
    (LA.Gen.ClientFacts.fromWireByLength.map (·.1) = List.range 81) ∧
    ∀ e ∈ LA.Gen.ClientFacts.fromWireByLength,
      (fromWire probeRecv (List.replicate e.1 (85 : UInt8))).map Status.words = e.2 := by
  -- evaluated on `if i < n then 85 else 0`, not on byte lists: 44 list walks per entry are slow in the kernel
  simp only [fromWire_eq, Status.ofBytes, rd32, rd8_replicate, List.length_replicate]
  decide +kernel

end LA.Client

/-! ### the code keeps nothing between calls that the model does not have -/

/-- Outside `init`, no function of the root package writes a package-level variable, hands the address of one to a function or calls a
sync/atomic method on one (regenerated list, see LA.Proofs.StateFacts): all state is in the object the model is given. -/
theorem C16_state_is_in_the_object : LA.StateFacts.ofPkg "" = [] := LA.StateFacts.ofPkg_root

/-- What the root package reads of the process it runs in is the clock (the Reassembler's deadlines, which the model is
given as readings), the process id (an input of SetPID) and the page size (the default receive buffer): `envReads`,
regenerated with go/types on every run, lists the package-level functions of os, os/user, os/exec, net, runtime,
math/rand, crypto/rand that are called, time.Now / Since / Until, file-system functions of path/filepath and process
queries of syscall. Nothing else of the machine — processors, environment variables, files, random numbers — can
influence what the Reassembler or the client does. -/
theorem C16_environment_is_clock_pid_pagesize : LA.StateFacts.envOf "" = LA.StateFacts.rootEnv := LA.StateFacts.envOf_root
