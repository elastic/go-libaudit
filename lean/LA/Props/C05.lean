/-
C05 — The audit log parser is total: no panic or hang on any input; repeated calls to
Data/Tags/ToMapStr give the same result.

Every Go index/slice expression of the parser is modelled by a checked accessor whose
failure is the distinct outcome `Res.panic`; the theorems say that outcome is unreachable.
Termination is Lean's: every definition of the model is structurally recursive or bounded by
fuel (and `C05_fuel_suffices` shows the fuel used for the key/value scan is enough).
Not covered by a theorem (assumed): the Go runtime and the standard library functions listed
in DESIGN.md section 3, and stack depth for pathological `msg=msg=…` nesting.
-/
import LA.Proofs.Auparse
import LA.Proofs.StateObligations.Auparse

namespace LA.Auparse
open LA

/-- ParseLogLine and Parse never panic, for every input and every record type. -/
theorem C05_parse_no_panic (line : Bytes) (typ : Nat) :
    parseLogLine line ≠ Res.panic ∧ parse typ line ≠ Res.panic :=
  ⟨parseLogLine_no_panic line, parse_no_panic typ line⟩

/-- Data() (hence Tags() and ToMapStr(), which only read its result) never panics on any
message that Parse or ParseLogLine returned, whatever the record type. -/
theorem C05_data_no_panic (typ : Nat) (s : Bytes) (m : Msg) (h : parse typ s = Res.ok m) :
    (dataOf m).data ≠ Res.panic := dataOf_no_panic (parse_offset h).2

/-- … including messages produced from a whole log line. -/
theorem C05_line_data_no_panic (line : Bytes) (m : Msg) (h : parseLogLine line = Res.ok m) :
    (dataOf m).data ≠ Res.panic :=
  have ⟨_, _, h⟩ := parseLogLine_ok h
  dataOf_no_panic (parse_offset h).2

/-- Bad input is reported through the error result: the only outcomes are a message or an
error class (never both, never neither). -/
theorem C05_outcomes (typ : Nat) (s : Bytes) :
    (∃ m, parse typ s = Res.ok m) ∨ (∃ c, parse typ s = Res.err c) := by
  cases h : parse typ s with
  | ok m => exact Or.inl ⟨m, rfl⟩
  | err c => exact Or.inr ⟨c, rfl⟩
  | panic => exact absurd h (parse_no_panic typ s)

/-- Repeated calls return the same result: with the cache cell, the second (and any later)
Data() returns what the first one returned. -/
theorem C05_idempotent (m : Msg) (c : Cache) :
    let r1 := dataCached m c
    let r2 := dataCached m r1.2
    r2.1 = r1.1 ∧ r2.2 = r1.2 := by
  cases c <;> simp [dataCached]

/-- The fuel given to the key/value scan is enough: any two amounts of fuel above the length
of the text give the same matches (so the scan is not cut short). -/
theorem C05_fuel_suffices (s : Bytes) : ∀ (f1 f2 : Nat), s.length < f1 → s.length < f2 →
    kvMatches f1 s = kvMatches f2 s := by
  intro f1
  induction f1 generalizing s with
  | zero => intro f2 h; omega
  | succ f1 ih =>
    intro f2 h1 h2
    obtain ⟨f2, rfl⟩ : ∃ f, f2 = f + 1 := ⟨f2 - 1, by omega⟩
    cases s with
    | nil => rfl
    | cons b rest =>
      -- every recursive call is on text no longer than `rest`
      have ok : ∀ t : Bytes, t.length ≤ rest.length → kvMatches f1 t = kvMatches f2 t := fun t ht =>
        ih t f2 (by rw [List.length_cons] at h1; omega) (by rw [List.length_cons] at h2; omega)
      simp only [kvMatches]
      split
      next hk =>
        -- the key takes `b` at least
        have hlt : ((b :: rest).drop ((b :: rest).takeWhile isKeyByte).length).length ≤ rest.length := by simp [hk]
        generalize (b :: rest).drop ((b :: rest).takeWhile isKeyByte).length = after at hlt
        -- the four recursive calls: behind a matched value; at `=`, when no value matches; behind the key, when no `=` follows;
        -- behind `b`, when it is no key byte
        split
        · split
          · congr 1
            exact ok _ (by rw [List.length_drop]; exact Nat.le_trans (Nat.sub_le ..) (Nat.le_of_succ_le hlt))
          · exact ok _ hlt
        · exact ok _ hlt
      next => exact ok _ (Nat.le_refl _)

/-- non-vacuity: a record on which Parse succeeds (so the hypothesis of C05_data_no_panic is
satisfiable). -/
example : parse 1307 (ofString "audit(1.000:2): cwd=\"/\"") =
    Res.ok ⟨1307, 1, 0, 2, ofString "audit(1.000:2): cwd=\"/\"", 1⟩ := by
  rw [ofString_ofList]; decide +kernel

end LA.Auparse

/-! ### the code keeps nothing between calls that the model does not have -/

/-- Outside `init`, no function of package auparse writes a package-level variable, hands the address of one to a function or calls a
sync/atomic method on one (regenerated list, see LA.Proofs.StateFacts): the parser is a function of its argument. -/
theorem C05_parser_keeps_nothing_between_calls : LA.StateFacts.ofPkg "auparse" = [] := LA.StateFacts.ofPkg_auparse

/-- … and reads nothing of the process it runs in: package auparse calls no function of os, os/user, os/exec, net,
runtime, math/rand or crypto/rand, no time.Now / Since / Until, no file-system function of path/filepath and no
process query of syscall (`envReads`, regenerated with go/types on every run). What the parser answers is a function
of the bytes it is given — not of the machine's time zone, locale, user database, number of processors or files. -/
theorem C05_parser_reads_no_environment : LA.StateFacts.envOf "auparse" = [] := LA.StateFacts.envOf_auparse
