/-
C13 — Rule encoder, decoder and flag parser never panic; bad input is an error.
Go index/slice expressions and array stores of the rule package are modelled by checked
accessors (`Res.panic`); the theorems say that outcome is unreachable for every input.
Allocation in proportion to numbers found in the input is observed by the monitor (TotalAlloc),
not expressed in the model; flags.Parse has no index arithmetic of its own (the `flag` package,
`regexp` and `shellquote` are assumed panic-free), so its model has no panic outcome at all.
-/
import LA.Proofs.RuleWire
import LA.Proofs.StateObligations.Rule

namespace LA.Rule
open LA
open LA.Auparse (Res slice slice_add_ok)

/-- Build never panics, for every Rule value and environment: the stores into the fixed 64-slot
arrays are guarded by the field-count check. -/
theorem C13_build_total (env : Env) (rule : Rule) : build env rule ≠ Res.panic := by
  unfold build
  cases ruleDataOf env rule with
  | none => nofun
  | some r =>
    show toWire r ≠ Res.panic
    rw [toWire_eq]
    split <;> nofun

/-- what fromWire guarantees about the record it returns. -/
structure ArdOk (a : Ard) : Prop where
  fields : a.fields.length = 64
  values : a.values.length = 64
  fieldFlags : a.fieldFlags.length = 64
  buf : a.buf.length = a.bufLen

theorem fromWire_spec (data : Bytes) :
    fromWire data = Res.err "err" ∨ ∃ a, fromWire data = Res.ok a ∧ ArdOk a ∧ headerSize + a.bufLen ≤ data.length ∧
      rd32 data 8 = Res.ok a.fieldCount := by
  by_cases hlen : data.length < headerSize
  · exact Or.inl (by rw [fromWire, if_pos hlen])
  · have hs : headerSize = 1040 := rfl
    obtain ⟨f, h0⟩ := word_of_le (b := data) (off := 0) (by omega)
    obtain ⟨ac, h4⟩ := word_of_le (b := data) (off := 4) (by omega)
    obtain ⟨c, h8⟩ := word_of_le (b := data) (off := 8) (by omega)
    obtain ⟨m, hm⟩ := words_of_le (b := data) (off := 12) (n := 64) (by omega)
    obtain ⟨fs, hfs⟩ := words_of_le (b := data) (off := 268) (n := 64) (by omega)
    obtain ⟨vs, hvs⟩ := words_of_le (b := data) (off := 524) (n := 64) (by omega)
    obtain ⟨ffs, hffs⟩ := words_of_le (b := data) (off := 780) (n := 64) (by omega)
    obtain ⟨bl, hbl⟩ := word_of_le (b := data) (off := 1036) (by omega)
    rw [fromWire_eq h0 h4 h8 hm hfs hvs hffs hbl]
    split
    · exact Or.inl rfl
    · rename_i hfit
      have hbl' : bl ≤ data.length - 1040 := Nat.le_trans (Nat.le_of_not_lt hfit) (Nat.mod_le _ _)
      refine Or.inr ⟨_, rfl, ⟨words_length hfs, words_length hvs, words_length hffs, ?_⟩, by show 1040 + bl ≤ _; omega, rd32_of_word h8⟩
      rw [List.length_take, List.length_drop]
      exact Nat.min_eq_left hbl'

/-- no third outcome: indexing stays within the 64 slots and every slice within the buffer. -/
theorem decodeFields_spec (a : Ard) (ha : ArdOk a) (n i offset : Nat) (hi : i + n ≤ 64) (ho : offset ≤ a.bufLen) :
    decodeFields a n i offset = Res.err "err" ∨
    ∃ fs vs ops ss, decodeFields a n i offset = Res.ok (fs, vs, ops, ss) ∧ offset + (ss.map List.length).sum ≤ a.bufLen := by
  induction n generalizing i offset with
  | zero => exact Or.inr ⟨[], [], [], [], rfl, ho⟩
  | succ n ih =>
    have slot : ∀ l : List Nat, l.length = 64 → ∃ x, l[i]? = some x :=
      fun l hl => ⟨_, List.getElem?_eq_getElem (hl ▸ (by omega : i < 64))⟩
    obtain ⟨f, hf⟩ := slot _ ha.fields
    obtain ⟨op, hop⟩ := slot _ ha.fieldFlags
    obtain ⟨v, hv⟩ := slot _ ha.values
    rw [decodeFields_succ hf hop hv]
    by_cases hs : stringFields.contains f = true
    · rw [if_pos hs]
      by_cases hover : v > a.bufLen - offset
      · exact Or.inl (if_pos hover)
      · have hfit : offset + v ≤ a.buf.length := by have := ha.buf; omega
        rw [if_neg hover, slice_add_ok hfit]
        rcases ih (i + 1) (offset + v) (by omega) (ha.buf ▸ hfit) with h | ⟨fs, vs, ops, ss, h, hsum⟩
        · exact Or.inl (by rw [h]; rfl)
        · refine Or.inr ⟨_, _, _, _, by rw [h]; rfl, ?_⟩
          rw [List.map_cons, List.sum_cons, List.length_take, List.length_drop, Nat.min_eq_left (by omega), ← Nat.add_assoc]
          exact hsum
    · rw [if_neg hs]
      rcases ih (i + 1) offset (by omega) ho with h | ⟨fs, vs, ops, ss, h, hsum⟩
      · exact Or.inl (by rw [h]; rfl)
      · exact Or.inr ⟨_, _, _, _, by rw [h]; rfl, hsum⟩

theorem fromArd_spec (a : Ard) (ha : ArdOk a) :
    fromArd a = Res.err "err" ∨
    (a.fieldCount ≤ 64 ∧ ∃ r, fromArd a = Res.ok r ∧ (r.strings.map List.length).sum ≤ a.bufLen) := by
  have hmax := maxFields_eq
  unfold fromArd
  split
  · exact Or.inl rfl
  · rename_i hfc
    rcases decodeFields_spec a ha a.fieldCount 0 0 (by omega) (by omega) with h | ⟨fs, vs, ops, ss, h, hsum⟩
    · exact Or.inl (by rw [h]; rfl)
    · exact Or.inr ⟨by omega, _, by rw [h]; rfl, by simpa using hsum⟩

/-- ToCommandLine never panics, for every byte slice. -/
theorem C13_decode_total (wf : Bytes) : toCommandLine wf ≠ Res.panic := by
  unfold toCommandLine
  rcases fromWire_spec wf with h | ⟨a, h, ha, _, _⟩ <;> rw [h]
  · nofun
  · rcases fromArd_spec a ha with h2 | ⟨_, r, h2, _⟩ <;> rw [res_bind_ok, h2]
    · nofun
    · rw [res_bind_ok]
      split <;> nofun

/-- Whenever ToCommandLine succeeds, the bytes were a structurally valid rule: at least a full
header, field count within 64, buflen within the bytes after the header, and the string lengths
add up to at most buflen. -/
theorem C13_valid_when_ok (wf text : Bytes) (h : toCommandLine wf = Res.ok text) :
    ∃ a r, fromWire wf = Res.ok a ∧ fromArd a = Res.ok r ∧ headerSize ≤ wf.length ∧ a.fieldCount ≤ 64 ∧
      headerSize + a.bufLen ≤ wf.length ∧ (r.strings.map List.length).sum ≤ a.bufLen := by
  unfold toCommandLine at h
  rcases fromWire_spec wf with hw | ⟨a, hw, ha, hsz, _⟩
  · rw [hw] at h; cases h
  · rcases fromArd_spec a ha with hr | ⟨hfc, r, hr, hsum⟩
    · rw [hw, res_bind_ok, hr] at h; cases h
    · exact ⟨a, r, hw, hr, by omega, hfc, hsz, hsum⟩

theorem toCommandLine_fieldCount_gt (wf : Bytes) (fc : Nat) (h8 : rd32 wf 8 = Res.ok fc) (hfc : 64 < fc) :
    toCommandLine wf = Res.err "err" := by
  unfold toCommandLine
  rcases fromWire_spec wf with h | ⟨a, h, _, _, ha8⟩ <;> rw [h]
  · rfl
  · cases h8.symm.trans ha8
    rw [res_bind_ok, fromArd, if_pos (by rw [maxFields_eq]; exact hfc)]
    rfl

/-- non-vacuity: a hostile header (field_count 65) is an error, not a panic. -/
example : toCommandLine (le32 4 ++ le32 2 ++ le32 65 ++ List.replicate 1028 0) = Res.err "err" :=
  toCommandLine_fieldCount_gt _ 65 (by decide +kernel) (by decide)

end LA.Rule

/-- Packages rule and rule/flags write package-level variables only in the five table builders, which nothing but `init`
mentions (regenerated list, see LA.Proofs.StateFacts): Parse, Build and ToCommandLine are functions of their arguments. -/
theorem C13_rule_packages_keep_nothing_between_calls : LA.StateFacts.ofPkg "rule" = LA.StateFacts.ruleTableBuilders ∧ LA.StateFacts.ofPkg "rule/flags" = [] := ⟨LA.StateFacts.ofPkg_rule, LA.StateFacts.ofPkg_ruleflags⟩

/-- What the rule packages read of the process they run in is what the model is given as `Env`: the file type of a
watched path (os.Stat) and the user and group databases; package flags reads nothing (`envReads`, regenerated with
go/types on every run: package-level functions of os, os/user, os/exec, net, runtime, math/rand, crypto/rand,
time.Now / Since / Until, file-system functions of path/filepath, process queries of syscall). -/
theorem C13_environment_is_stat_and_the_id_databases :
    LA.StateFacts.envOf "rule" = LA.StateFacts.ruleEnv ∧ LA.StateFacts.envOf "rule/flags" = [] := ⟨LA.StateFacts.envOf_rule, LA.StateFacts.envOf_ruleflags⟩
