/-
ASCII helpers over byte strings represented as `List Nat` (Go strings are byte strings).
Decimal printing/parsing with Go's strconv acceptance rules. Core-only.
After the definitions, what the proofs need of them: printed decimals are read back (`parseDigits_dec`,
`parseUint_dec`, `dec_head`), what an accepted text denotes (`parseDigits_value`), a scan stops at the first
separator (`indexOf_append_sep`, `indexOf_split`) or the first byte outside its class (`takeWhile_append_stop`,
`dropWhile_of_head`), case mapping.
-/
namespace LA

abbrev Bytes := List Nat

def isDigit (b : Nat) : Bool := decide (48 ≤ b) && decide (b ≤ 57)
def isLower (b : Nat) : Bool := decide (97 ≤ b) && decide (b ≤ 122)
def isUpper (b : Nat) : Bool := decide (65 ≤ b) && decide (b ≤ 90)
def toUpper (b : Nat) : Nat := if isLower b then b - 32 else b
def toLower (b : Nat) : Nat := if isUpper b then b + 32 else b
def upper (bs : Bytes) : Bytes := bs.map toUpper
def lower (bs : Bytes) : Bytes := bs.map toLower
def isAscii (bs : Bytes) : Bool := bs.all (fun b => decide (b < 128))

/-- index of the first occurrence of byte `c` (strings.IndexByte). -/
def indexOf (c : Nat) : Bytes → Option Nat
  | [] => none
  | b :: bs => if b == c then some 0 else (indexOf c bs).map (· + 1)

/-- decimal digits of `n` (strconv.FormatUint base 10). -/
def dec (n : Nat) : Bytes :=
  if h : n < 10 then [48 + n] else dec (n / 10) ++ [48 + n % 10]
decreasing_by omega

def parseDigits : Bytes → Nat → Option Nat
  | [], acc => some acc
  | b :: bs, acc => if isDigit b then parseDigits bs (acc * 10 + (b - 48)) else none

/-- strconv.ParseUint(s, 10, bits) with max = 2^bits - 1: non-empty, digits only, in range. -/
def parseUint (bs : Bytes) (max : Nat) : Option Nat :=
  if bs.isEmpty then none else
  match parseDigits bs 0 with
  | some v => if v ≤ max then some v else none
  | none => none

/-- bytes of an ASCII string literal (code points = bytes for ASCII; only used on ASCII
literals). Defined through `String.toList` so that the kernel can evaluate it. -/
def ofString (s : String) : Bytes := s.toList.map Char.toNat

/-- Evaluating `String.toList "…"` costs the kernel thousands of steps per
character (it decodes UTF-8 from the byte array); `rw [ofString_ofList]` (once per distinct literal: the literal
unifies with `String.ofList _`) hands it the character list instead. Used before `decide +kernel` on test vectors. -/
theorem ofString_ofList (cs : List Char) : ofString (String.ofList cs) = cs.map Char.toNat := by
  unfold ofString; rw [String.toList_ofList]

theorem parseDigits_append (a b : Bytes) (acc : Nat) :
    parseDigits (a ++ b) acc = (parseDigits a acc).bind (parseDigits b) := by
  fun_induction parseDigits a acc with
  | case1 acc => rfl
  | case2 x a acc hx ih => rw [List.cons_append, parseDigits, if_pos hx, ih]
  | case3 x a acc hx => rw [List.cons_append, parseDigits, if_neg hx]; rfl

theorem isDigit_add {d : Nat} (h : d < 10) : isDigit (48 + d) = true := by simp [isDigit]; omega

theorem parseDigits_cons_digit {d : Nat} (h : d < 10) (s : Bytes) (acc : Nat) :
    parseDigits ((48 + d) :: s) acc = parseDigits s (acc * 10 + d) := by
  rw [parseDigits, if_pos (isDigit_add h), Nat.add_sub_cancel_left]

theorem parseDigits_dec (n : Nat) : parseDigits (dec n) 0 = some n := by
  induction n using dec.induct with
  | case1 n h => rw [dec, dif_pos h, parseDigits_cons_digit h, parseDigits, Nat.zero_mul, Nat.zero_add]
  | case2 n h ih =>
    rw [dec, dif_neg h, parseDigits_append, ih, Option.bind_some, parseDigits_cons_digit (Nat.mod_lt _ (by decide)), parseDigits,
      Nat.div_add_mod']

theorem dec_digits (n : Nat) : ∀ b ∈ dec n, isDigit b = true := by
  induction n using dec.induct with
  | case1 n h =>
    rw [dec, dif_pos h, List.forall_mem_singleton]
    exact isDigit_add h
  | case2 n h ih =>
    rw [dec, dif_neg h, List.forall_mem_append, List.forall_mem_singleton]
    exact ⟨ih, isDigit_add (Nat.mod_lt _ (by decide))⟩

theorem dec_head (n : Nat) : ∃ d tl, dec n = d :: tl ∧ isDigit d = true ∧ (0 < n → d ≠ 48) := by
  induction n using dec.induct with
  | case1 n h =>
    rw [dec, dif_pos h]
    exact ⟨48 + n, [], rfl, isDigit_add h, fun hn => Nat.ne_of_gt (Nat.lt_add_of_pos_right hn)⟩
  | case2 n h ih =>
    obtain ⟨d, tl, hd, hdig, hne⟩ := ih
    rw [dec, dif_neg h, hd]
    exact ⟨d, tl ++ [48 + n % 10], rfl, hdig, fun _ => hne (Nat.div_pos (Nat.le_of_not_lt h) (by decide))⟩

theorem dec_ne_nil (n : Nat) : dec n ≠ [] := by
  obtain ⟨d, tl, h, -⟩ := dec_head n
  rw [h]
  nofun

theorem parseUint_dec (n max : Nat) (h : n ≤ max) : parseUint (dec n) max = some n := by
  obtain ⟨d, tl, hd, -⟩ := dec_head n
  rw [parseUint, parseDigits_dec, hd]
  simp [h]

theorem parseUint_eq_some {bs : Bytes} {max v : Nat} (h : parseUint bs max = some v) :
    bs ≠ [] ∧ parseDigits bs 0 = some v ∧ v ≤ max := by
  revert h
  fun_cases parseUint bs max with
  | case1 | case3 | case4 => nofun   -- empty; over `max`; not digits
  | case2 hne w hw hle => exact fun h => Option.some.inj h ▸ ⟨fun hh => hne (hh ▸ rfl), hw, hle⟩

theorem indexOf_append_sep {c : Nat} {a : Bytes} (b : Bytes) (h : c ∉ a) :
    indexOf c (a ++ c :: b) = some a.length := by
  induction a with
  | nil => simp [indexOf]
  | cons x a ih =>
    obtain ⟨hx, ha⟩ := not_or.mp (mt List.mem_cons.mpr h)
    rw [List.cons_append, indexOf, beq_false_of_ne (Ne.symm hx), if_neg Bool.false_ne_true, ih ha, Option.map_some,
      List.length_cons]

theorem takeWhile_append_stop {α : Type} {p : α → Bool} (a tail : List α) (ha : ∀ b ∈ a, p b = true)
    (ht : tail = [] ∨ ∃ c t, tail = c :: t ∧ p c = false) : (a ++ tail).takeWhile p = a := by
  rw [List.takeWhile_append_of_pos ha]
  rcases ht with rfl | ⟨c, t, rfl, hc⟩
  · simp
  · simp [hc]

theorem drop_takeWhile_length {α : Type} (p : α → Bool) (l : List α) : l.drop (l.takeWhile p).length = l.dropWhile p := by
  have := List.drop_left (l₁ := l.takeWhile p) (l₂ := l.dropWhile p)
  rwa [List.takeWhile_append_dropWhile] at this

theorem dropWhile_of_head {α : Type} {p : α → Bool} {l : List α} (h : ∀ b, l.head? = some b → p b = false) : l.dropWhile p = l := by
  cases l with
  | nil => rfl
  | cons b l => rw [List.dropWhile_cons, h b rfl]; rfl

theorem toUpper_of_not_lower {b : Nat} (h : isLower b = false) : toUpper b = b := by simp [toUpper, h]

theorem upper_id_of {bs : Bytes} (h : ∀ b ∈ bs, isLower b = false) : upper bs = bs := by
  induction bs with
  | nil => rfl
  | cons x xs ih =>
    simp only [upper, List.map_cons] at *
    rw [toUpper_of_not_lower (h x (by simp)), ih (fun b hb => h b (by simp [hb]))]

theorem toUpper_toLower (b : Nat) : toUpper (toLower b) = toUpper b := by
  unfold toLower
  split
  next h =>
    have : isLower (b + 32) = true ∧ isLower b = false := by simp [isLower, isUpper] at *; omega
    simp [toUpper, this]
  next => rfl

theorem upper_lower (bs : Bytes) : upper (lower bs) = upper bs := by
  simp [upper, lower, toUpper_toLower]

theorem digit_not_lower {b : Nat} (h : isDigit b = true) : isLower b = false := by
  simp [isDigit, isLower] at *; omega

theorem indexOf_split {c : Nat} {s : Bytes} {i : Nat} (h : indexOf c s = some i) :
    ∃ a b, s = a ++ c :: b ∧ c ∉ a ∧ a.length = i := by
  fun_induction indexOf c s generalizing i with
  | case1 => cases h
  | case2 x s hx => cases h; exact ⟨[], s, by rw [beq_iff_eq.mp hx]; rfl, nofun, rfl⟩
  | case3 x s hx ih =>
    obtain ⟨j, hj, rfl⟩ := Option.map_eq_some_iff.mp h
    obtain ⟨a, b, rfl, ha, rfl⟩ := ih hj
    exact ⟨x :: a, b, rfl, fun hm => (List.mem_cons.mp hm).elim (fun e => hx (beq_iff_eq.mpr e.symm)) ha, rfl⟩

theorem parseDigits_acc_le {s : Bytes} {a v : Nat} (h : parseDigits s a = some v) : a ≤ v := by
  fun_induction parseDigits s a with
  | case1 acc => cases h; exact Nat.le_refl _
  | case2 b bs acc _ ih => exact Nat.le_trans (by omega) (ih h)
  | case3 => cases h

theorem parseDigits_value {bs : Bytes} {acc v : Nat} (h : parseDigits bs acc = some v) :
    (∀ b ∈ bs, isDigit b = true) ∧ v = bs.foldl (fun a b => a * 10 + (b - 48)) acc := by
  fun_induction parseDigits bs acc with
  | case1 acc => cases h; exact ⟨nofun, rfl⟩
  | case2 b bs acc hb ih => exact ⟨List.forall_mem_cons.mpr ⟨hb, (ih h).1⟩, (ih h).2⟩
  | case3 => cases h

theorem not_mem_of_digits {c : Nat} {s : Bytes} (hs : ∀ b ∈ s, isDigit b = true) (hc : isDigit c = false) : c ∉ s := by
  intro h
  have := hs c h
  rw [hc] at this
  exact absurd this (by simp)

end LA
