/-
The independent decoder of Spec/Uapi agrees with the model's little-endian readers.
-/
import LA.Proofs.Netlink
import LA.Spec.Uapi

namespace LA.Netlink
open LA.Spec

theorem uapi_byteAt (b : Bytes) (i : Nat) : Uapi.byteAt b i = rd8 b i := by
  simp only [Uapi.byteAt, rd8, List.getD_eq_getElem?_getD]
  cases b[i]? <;> rfl

theorem uapi_field4 (b : Bytes) (off : Nat) : Uapi.field b off 4 = rd32 b off := by
  simp [Uapi.field, uapi_byteAt, rd32, Nat.add_assoc]; omega

theorem uapi_field2 (b : Bytes) (off : Nat) : Uapi.field b off 2 = rd16 b off := by
  simp [Uapi.field, uapi_byteAt, rd16]

theorem decode_nlmsghdr (b : Bytes) :
    Uapi.decode Uapi.nlmsghdr b =
      [("nlmsg_len", (Hdr.parse b).len), ("nlmsg_type", (Hdr.parse b).typ), ("nlmsg_flags", (Hdr.parse b).flags),
       ("nlmsg_seq", (Hdr.parse b).seq), ("nlmsg_pid", (Hdr.parse b).pid)] := by
  simp only [Uapi.decode, Uapi.nlmsghdr, List.map_cons, List.map_nil, uapi_field4, uapi_field2, Hdr.parse]

end LA.Netlink
