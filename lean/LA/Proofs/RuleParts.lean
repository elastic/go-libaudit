/-
Printed `-F` arguments of a rule as lists of (lhs, op, rhs) parts: the name pair of a printable triple
(`PTrip`), the value texts (`rhsList`) and the parts (`partsMixed`, or `partsOf` when no field is
string-valued) in which `C07_roundtrip_filters` and `C07_roundtrip_numeric` are stated.
-/
import LA.Proofs.RuleWire

namespace LA.Rule
open LA

/-- a triple printed as a plain `-F lhs op value`: `lhs` and `opS` are the names of its field and operator. -/
structure PTrip (t : Nat × Nat × Nat) (lhs opS : Bytes) : Prop where
  notArch : (t.1 == LA.Gen.RuleTables.archField) = false
  notCmp : (t.1 == LA.Gen.RuleTables.fieldCompare) = false
  lhs : revLookup LA.Gen.RuleTables.fieldsTable t.1 = some lhs
  op : revLookup LA.Gen.RuleTables.operatorsTable t.2.2 = some opS

def tokF : Bytes := [45, 70]   -- "-F"

def fTokens (ts : List (Bytes × Bytes × Bytes)) : List Bytes :=
  ts.flatMap (fun t => [tokF, t.1 ++ t.2.1 ++ t.2.2])

def partsOf (t : Nat × Nat × Nat) (lhs opS : Bytes) : Bytes × Bytes × Bytes := (lhs, opS, fieldRhs t.1 t.2.1)

/-- the value texts of the triples, in order: the aligned string of a string-valued field, the
printed number (or name) of any other. -/
def rhsList : List (Nat × Nat × Nat) → List Bytes → List Bytes
  | [], _ => []
  | t :: ts, ss =>
    if stringFields.contains t.1 then
      match ss with
      | s :: rest => s :: rhsList ts rest
      | [] => []
    else fieldRhs t.1 t.2.1 :: rhsList ts ss

theorem rhsList_length {ts : List (Nat × Nat × Nat)} {ss : List Bytes} (h : Aligned ts ss) : (rhsList ts ss).length = ts.length := by
  induction ts generalizing ss with
  | nil => rfl
  | cons t ts ih =>
    simp only [Aligned] at h
    simp only [rhsList]
    split
    · rename_i hs
      rw [if_pos hs] at h
      obtain ⟨s, rest, rfl, _, hr⟩ := h
      simp [ih hr]
    · rename_i hs
      rw [if_neg hs] at h
      simp [ih h]

/-- the (lhs, op, rhs) parts printed for the triples: name pairs and value texts zipped (the triples give the length
only) -/
def partsMixed : List (Nat × Nat × Nat) → List (Bytes × Bytes) → List Bytes → List (Bytes × Bytes × Bytes)
  | _ :: ts, nm :: names, v :: vals => (nm.1, nm.2, v) :: partsMixed ts names vals
  | _, _, _ => []

theorem partsMixed_length (ts : List (Nat × Nat × Nat)) (names : List (Bytes × Bytes)) (vals : List Bytes)
    (h1 : names.length = ts.length) (h2 : vals.length = ts.length) : (partsMixed ts names vals).length = ts.length := by
  induction ts generalizing names vals with
  | nil => cases names <;> rfl
  | cons t ts ih =>
    cases names with
    | nil => cases h1
    | cons nm names =>
      cases vals with
      | nil => cases h2
      | cons v vals =>
        simp only [partsMixed, List.length_cons, ih names vals (Nat.succ.inj h1) (Nat.succ.inj h2)]

theorem partsMixed_numeric (ts : List (Nat × Nat × Nat)) (names : List (Bytes × Bytes)) (ss : List Bytes)
    (hn : ∀ t ∈ ts, stringFields.contains t.1 = false) :
    partsMixed ts names (rhsList ts ss) = (ts.zip names).map (fun p => partsOf p.1 p.2.1 p.2.2) := by
  induction ts generalizing names with
  | nil => cases names <;> simp [partsMixed]
  | cons t ts ih =>
    cases names with
    | nil => simp [partsMixed]
    | cons nm names =>
      simp only [rhsList, hn t List.mem_cons_self, Bool.false_eq_true, ↓reduceIte, partsMixed, List.zip_cons_cons, List.map_cons, partsOf,
        ih names (fun x hx => hn x (List.mem_cons_of_mem _ hx))]

end LA.Rule
