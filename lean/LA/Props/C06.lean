/-
C06 — Built rules are byte-exact kernel audit_rule_data for what was asked.
`LA.Spec.RuleLayout.decode` is written from the UAPI struct only; `LA.Spec.RuleUapi` holds the
UAPI numbers. The constants/tables are regenerated from the Go sources on every run.
-/
import LA.Proofs.Rule
import LA.Proofs.RuleBounds
import LA.Spec.RuleUapi
import LA.Proofs.StateObligations.Rule

namespace LA.Rule
open LA
open LA.Auparse (Res)

/-- all 32-bit quantities of the accumulated rule data fit a word. -/
def WordsOk (r : RuleData) : Prop :=
  r.flags < 4294967296 ∧ r.action < 4294967296 ∧ (∀ w ∈ r.fields, w < 4294967296) ∧
  (∀ w ∈ r.values, w < 4294967296) ∧ (∀ w ∈ r.fieldFlags, w < 4294967296) ∧
  (∀ w ∈ r.syscalls, w < 2048) ∧ r.strings.flatten.length < 4294967296

/-- Layout: whenever the encoder produces bytes, the independent UAPI decoder reads back exactly
list, action, the number of fields, the mask, the field/value/operator triples in the order given
(zero beyond the count), buflen = total length of the strings, the strings laid back to back, and
zero padding to a multiple of 4. -/
theorem C06_layout (r : RuleData) (b : Bytes) (hw : WordsOk r) (h : toWire r = Res.ok b) :
    LA.Spec.RuleLayout.decode b = some
      { flags := r.flags, action := r.action, fieldCount := r.fields.length, mask := maskOf r,
        fields := padTo 64 r.fields, values := padTo 64 r.values, fieldFlags := padTo 64 r.fieldFlags,
        bufLen := r.strings.flatten.length, buf := r.strings.flatten,
        padding := List.replicate ((4 - (1040 + r.strings.flatten.length) % 4) % 4) 0 } ∧
    b.length = (1040 + r.strings.flatten.length + 3) / 4 * 4 ∧ r.fields.length ≤ 64 := by
  obtain ⟨h1, h2, h3, h4, h5, _, h7⟩ := hw
  rw [toWire_eq, Nat.mod_eq_of_lt h7] at h
  split at h
  · cases h
  · rename_i hc
    cases h
    have hf : r.fields.length ≤ 64 := by rw [RuleData.fields, List.length_map]; omega
    have hv : r.values.length ≤ 64 := by rw [RuleData.values, List.length_map]; omega
    have hff : r.fieldFlags.length ≤ 64 := by rw [RuleData.fieldFlags, List.length_map]; omega
    refine ⟨decode_encode _ _ _ _ _ _ _ _ _ h1 h2 (by omega) h7 (maskOf_length r) (padTo_length _ _ hf) (padTo_length _ _ hv)
      (padTo_length _ _ hff) (maskOf_lt r) (padTo_lt 64 _ h3) (padTo_lt 64 _ h4) (padTo_lt 64 _ h5), ?_, hf⟩
    simp only [List.length_append, le32_length, flatMap_le32_length, maskOf_length, padTo_length _ _ hf,
      padTo_length _ _ hv, padTo_length _ _ hff, List.length_replicate]
    -- header and strings are 1040 + |strings| bytes; the `(4 - n % 4) % 4` bytes toWireFormat appends round that up to a multiple of 4
    omega

/-- The word-size side conditions of `C06_layout` hold for every rule data the encoder itself
accumulates (`ruleDataOf` = the body of rule.Build before serialisation), given only that the
OS user/group database returns 32-bit ids (`EnvOk`, the contract of os/user + ParseUint(…, 32)). -/
theorem C06_words_ok (env : Env) (he : EnvOk env) (rule : Rule) (r : RuleData) (b : Bytes)
    (h : ruleDataOf env rule = some r) (hb : toWire r = Res.ok b) : WordsOk r := by
  have hi := wordsInv_ruleDataOf he h
  have hl : r.trips.length ≤ 64 := by
    rw [toWire_eq] at hb
    split at hb
    · cases hb
    · omega
  have := strings_total_le hi
  exact ⟨hi.flags, hi.action, List.forall_mem_map.mpr fun t ht => (hi.trips t ht).1,
    List.forall_mem_map.mpr fun t ht => (hi.trips t ht).2.1, List.forall_mem_map.mpr fun t ht => (hi.trips t ht).2.2,
    hi.syscalls, by omega⟩

/-- C06 end to end for rule.Build: whenever Build returns bytes for a rule specification, the
independent UAPI decoder reads back exactly what the accumulated rule data says. No side
condition on the rule is left. -/
theorem C06_build_layout (env : Env) (he : EnvOk env) (rule : Rule) (b : Bytes) (h : build env rule = Res.ok b) :
    ∃ r, ruleDataOf env rule = some r ∧
      LA.Spec.RuleLayout.decode b = some
        { flags := r.flags, action := r.action, fieldCount := r.fields.length, mask := maskOf r,
          fields := padTo 64 r.fields, values := padTo 64 r.values, fieldFlags := padTo 64 r.fieldFlags,
          bufLen := r.strings.flatten.length, buf := r.strings.flatten,
          padding := List.replicate ((4 - (1040 + r.strings.flatten.length) % 4) % 4) 0 } ∧
      b.length = (1040 + r.strings.flatten.length + 3) / 4 * 4 ∧ r.fields.length ≤ 64 := by
  unfold build at h
  cases hr : ruleDataOf env rule with
  | none => simp [hr] at h
  | some r =>
    simp only [hr] at h
    exact ⟨r, rfl, C06_layout r b (C06_words_ok env he rule r b hr h) h⟩

/-- The syscall mask has exactly the bits of the requested syscalls: bit `bit` of word `w` is set
iff syscall number 32·w + bit was requested; or it is the all-syscalls pattern. -/
theorem C06_mask (r : RuleData) :
    (r.allSyscalls = true → maskOf r = List.replicate 63 0xFFFFFFFF ++ [0x0000FFFF]) ∧
    (r.allSyscalls = false → ∀ w < 64, ∀ bit, ∃ word, (maskOf r)[w]? = some word ∧
      word.testBit bit = (decide (bit < 32) && r.syscalls.contains (w * 32 + bit))) := by
  refine ⟨maskOf_all, fun h w hw bit => ⟨_, maskOf_getElem? h hw, by rw [maskWord_eq, testBit_bitSum]⟩⟩

/-- Every field, operator, list and action code equals the Linux UAPI constant for the name used;
the inter-field comparison table holds exactly the UAPI AUDIT_COMPARE_* codes (both operand
orders); sizes and limits are the kernel's. -/
theorem C06_constants :
    (∀ p ∈ LA.Gen.RuleTables.fieldsTable, lookupB LA.Spec.RuleUapi.fields p.1 = some p.2) ∧
    LA.Gen.RuleTables.fieldsTable.length = LA.Spec.RuleUapi.fields.length ∧
    (∀ p ∈ LA.Gen.RuleTables.operatorsTable, lookupB LA.Spec.RuleUapi.operators p.1 = some p.2) ∧
    LA.Gen.RuleTables.operatorsTable.length = LA.Spec.RuleUapi.operators.length ∧
    (∀ e ∈ LA.Gen.RuleTables.comparisonsTable,
      (e.1, e.2.1, e.2.2) ∈ LA.Spec.RuleUapi.comparePairs ∨ (e.2.1, e.1, e.2.2) ∈ LA.Spec.RuleUapi.comparePairs) ∧
    (∀ q ∈ LA.Spec.RuleUapi.comparePairs,
      (q.1, q.2.1, q.2.2) ∈ LA.Gen.RuleTables.comparisonsTable ∧ (q.2.1, q.1, q.2.2) ∈ LA.Gen.RuleTables.comparisonsTable) ∧
    (setList (ofString "exit") = lookupB LA.Spec.RuleUapi.lists (ofString "exit") ∧
     setList (ofString "task") = lookupB LA.Spec.RuleUapi.lists (ofString "task") ∧
     setList (ofString "user") = lookupB LA.Spec.RuleUapi.lists (ofString "user") ∧
     setList (ofString "exclude") = lookupB LA.Spec.RuleUapi.lists (ofString "exclude") ∧
     setAction (ofString "always") = lookupB LA.Spec.RuleUapi.actions (ofString "always") ∧
     setAction (ofString "never") = lookupB LA.Spec.RuleUapi.actions (ofString "never")) ∧
    (LA.Gen.RuleTables.fieldCompare = LA.Spec.RuleUapi.AUDIT_FIELD_COMPARE ∧
     LA.Gen.RuleTables.maxFields = LA.Spec.RuleUapi.AUDIT_MAX_FIELDS ∧
     LA.Gen.RuleTables.syscallBitmaskSize = LA.Spec.RuleUapi.AUDIT_BITMASK_SIZE ∧
     LA.Gen.RuleTables.maxKeyLength = LA.Spec.RuleUapi.AUDIT_MAX_KEY_LEN ∧
     LA.Gen.RuleTables.keySeparator = 1 ∧ LA.Gen.RuleTables.pathMax = 4096 ∧
     LA.Gen.RuleTables.ruleHeaderSize = LA.Spec.RuleLayout.headerSize ∧
     LA.Gen.RuleTables.execPerm = LA.Spec.RuleUapi.AUDIT_PERM_EXEC ∧ LA.Gen.RuleTables.writePerm = LA.Spec.RuleUapi.AUDIT_PERM_WRITE ∧
     LA.Gen.RuleTables.readPerm = LA.Spec.RuleUapi.AUDIT_PERM_READ ∧ LA.Gen.RuleTables.attrPerm = LA.Spec.RuleUapi.AUDIT_PERM_ATTR ∧
     LA.Gen.RuleTables.fileFiletype = LA.Spec.RuleUapi.S_IFREG ∧ LA.Gen.RuleTables.dirFiletype = LA.Spec.RuleUapi.S_IFDIR ∧
     LA.Gen.RuleTables.socketFiletype = LA.Spec.RuleUapi.S_IFSOCK ∧ LA.Gen.RuleTables.linkFiletype = LA.Spec.RuleUapi.S_IFLNK ∧
     LA.Gen.RuleTables.characterFiletype = LA.Spec.RuleUapi.S_IFCHR ∧ LA.Gen.RuleTables.blockFiletype = LA.Spec.RuleUapi.S_IFBLK ∧
     LA.Gen.RuleTables.fifoFiletype = LA.Spec.RuleUapi.S_IFIFO ∧
     eqOp = 0x40000000 ∧ lookupB LA.Gen.RuleTables.operatorsTable [61] = some eqOp ∧
     lookupB LA.Gen.RuleTables.operatorsTable [33, 61] = some neOp) := by
  refine ⟨by decide +kernel, by decide +kernel, by decide +kernel, by decide +kernel, by decide +kernel, by decide +kernel,
    by decide +kernel, by decide +kernel⟩

/-- non-vacuity: a concrete rule encodes to a 1044-byte audit_rule_data. -/
example : (match build ⟨false, [], []⟩ (.syscall 3 (ofString "exit") (ofString "always")
    [⟨2, ofString "pid", [61], ofString "1"⟩] [] [ofString "k"]) with
    | .ok b => decide (b.length = 1044)
    | _ => false) = true := by
  -- the kernel only evaluates the rule data and the outcome's constructor; the length is C06_build_layout's
  have key : (match build ⟨false, [], []⟩ (.syscall 3 (ofString "exit") (ofString "always")
    [⟨2, ofString "pid", [61], ofString "1"⟩] [] [ofString "k"]) with | .ok _ => true | _ => false) = true ∧
    (ruleDataOf ⟨false, [], []⟩ (.syscall 3 (ofString "exit") (ofString "always")
    [⟨2, ofString "pid", [61], ofString "1"⟩] [] [ofString "k"])).map (·.strings.flatten.length) = some 1 := by decide +kernel
  cases h : build _ _ with
  | ok b =>
    obtain ⟨r, hr, -, hl, -⟩ := C06_build_layout _ ⟨by decide, by decide⟩ _ b h
    rw [hr] at key; have e : r.strings.flatten.length = 1 := Option.some.inj key.2
    show decide (b.length = 1044) = true; rw [hl, e]; rfl
  | _ => rw [h] at key; exact absurd key.1 nofun

end LA.Rule

/-- Packages rule and rule/flags write package-level variables only in the five table builders, which nothing but `init`
mentions (regenerated list, see LA.Proofs.StateFacts): Parse, Build and ToCommandLine are functions of their arguments. -/
theorem C06_rule_packages_keep_nothing_between_calls : LA.StateFacts.ofPkg "rule" = LA.StateFacts.ruleTableBuilders ∧ LA.StateFacts.ofPkg "rule/flags" = [] := ⟨LA.StateFacts.ofPkg_rule, LA.StateFacts.ofPkg_ruleflags⟩

/-- What the rule packages read of the process they run in is what the model is given as `Env`: the file type of a
watched path (os.Stat) and the user and group databases; package flags reads nothing (`envReads`, regenerated with
go/types on every run: package-level functions of os, os/user, os/exec, net, runtime, math/rand, crypto/rand,
time.Now / Since / Until, file-system functions of path/filepath, process queries of syscall). -/
theorem C06_environment_is_stat_and_the_id_databases :
    LA.StateFacts.envOf "rule" = LA.StateFacts.ruleEnv ∧ LA.StateFacts.envOf "rule/flags" = [] := ⟨LA.StateFacts.envOf_rule, LA.StateFacts.envOf_ruleflags⟩
