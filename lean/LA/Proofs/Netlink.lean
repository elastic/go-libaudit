/-
The little-endian readers and writers of Model.Netlink, the header, serialize / parseAudit, and the invariant of the
interleaved Send model (`CInv`).
-/
import LA.Model.Netlink
import LA.Proofs.Digits

namespace LA.Netlink
open LA (split16 split32)

@[simp] theorem byte_toNat (n : Nat) : (byte n).toNat = n % 256 := by
  simp [byte]

theorem rd8_lt (b : Bytes) (i : Nat) : rd8 b i < 256 := by
  unfold rd8; exact UInt8.toNat_lt _

@[simp] theorem rd8_cons_zero (x : UInt8) (xs : Bytes) : rd8 (x :: xs) 0 = x.toNat := by
  simp [rd8]

@[simp] theorem rd8_cons_succ (x : UInt8) (xs : Bytes) (i : Nat) : rd8 (x :: xs) (i + 1) = rd8 xs i := by
  simp [rd8]

-- `rd16` and `rd32` are sums of `rd8`: a word read through `++`, `drop`, `take` or padding is moved by unfolding it
-- and rewriting its bytes with the lemmas below (`Hdr.parse_take`, `parseNetlinkError_drop`, `le32_rd32_at`)
theorem rd8_append_right (p l : Bytes) (i : Nat) : rd8 (p ++ l) (p.length + i) = rd8 l i := by
  simp [rd8, List.getD_eq_getElem?_getD, List.getElem?_append_right]

theorem rd8_append_left (p l : Bytes) (i : Nat) (h : i < p.length) : rd8 (p ++ l) i = rd8 p i := by
  simp [rd8, List.getD_eq_getElem?_getD, List.getElem?_append_left h]

theorem rd8_drop (b : Bytes) (k i : Nat) : rd8 (b.drop k) i = rd8 b (k + i) := by
  simp [rd8, List.getD_eq_getElem?_getD]

theorem rd8_take (b : Bytes) (k i : Nat) (h : i < k) : rd8 (b.take k) i = rd8 b i := by
  simp [rd8, List.getD_eq_getElem?_getD, h]

theorem rd8_of_length_le {b : Bytes} {i : Nat} (h : b.length ≤ i) : rd8 b i = 0 := by
  simp [rd8, List.getD_eq_getElem?_getD, List.getElem?_eq_none h]

theorem rd8_replicate (n : Nat) (x : UInt8) (i : Nat) : rd8 (List.replicate n x) i = if i < n then x.toNat else 0 := by
  simp only [rd8, List.getD_eq_getElem?_getD, List.getElem?_replicate]
  split <;> rfl

theorem rd8_append_zeros (b : Bytes) (k i : Nat) : rd8 (b ++ List.replicate k 0) i = rd8 b i := by
  by_cases h : i < b.length
  · exact rd8_append_left _ _ _ h
  · obtain ⟨j, rfl⟩ : ∃ j, i = b.length + j := ⟨i - b.length, by omega⟩
    rw [rd8_append_right, rd8_of_length_le (Nat.le_add_right ..), rd8_replicate]
    split <;> rfl

theorem rd32_append_left (p l : Bytes) (i : Nat) (h : i + 3 < p.length) : rd32 (p ++ l) i = rd32 p i := by
  rw [rd32, rd32, rd8_append_left _ _ _ (by omega), rd8_append_left _ _ _ (by omega), rd8_append_left _ _ _ (by omega),
    rd8_append_left _ _ _ (by omega)]

theorem rd32_drop (b : Bytes) (k i : Nat) : rd32 (b.drop k) i = rd32 b (k + i) := by
  simp only [rd32, rd8_drop, Nat.add_assoc]

theorem rd32_take (b : Bytes) (k i : Nat) (h : i + 3 < k) : rd32 (b.take k) i = rd32 b i := by
  rw [rd32, rd32, rd8_take _ _ _ (by omega), rd8_take _ _ _ (by omega), rd8_take _ _ _ (by omega), rd8_take _ _ _ (by omega)]

theorem rd32_append_right (p l : Bytes) (i : Nat) : rd32 (p ++ l) (p.length + i) = rd32 l i := by
  simp only [rd32, Nat.add_assoc, rd8_append_right]

theorem rd32_lt (b : Bytes) (i : Nat) : rd32 b i < 4294967296 := by
  have h0 := rd8_lt b i; have h1 := rd8_lt b (i + 1); have h2 := rd8_lt b (i + 2); have h3 := rd8_lt b (i + 3)
  unfold rd32; omega

theorem rd16_lt (b : Bytes) (i : Nat) : rd16 b i < 65536 := by
  have h0 := rd8_lt b i; have h1 := rd8_lt b (i + 1)
  unfold rd16; omega

@[simp] theorem le32_length (n : Nat) : (le32 n).length = 4 := rfl
@[simp] theorem le16_length (n : Nat) : (le16 n).length = 2 := rfl

theorem rd32_le32 (n : Nat) (rest : Bytes) : rd32 (le32 n ++ rest) 0 = n % 4294967296 := by
  simp only [rd32, le32, List.cons_append, rd8_cons_zero, rd8_cons_succ, byte_toNat]; exact split32 n

theorem rd16_le16 (n : Nat) (rest : Bytes) : rd16 (le16 n ++ rest) 0 = n % 65536 := by
  simp only [rd16, le16, List.cons_append, rd8_cons_zero, rd8_cons_succ, byte_toNat]; exact split16 n

theorem rd32_le32_add (a : Nat) (l : Bytes) (i : Nat) : rd32 (le32 a ++ l) (i + 4) = rd32 l i := by
  simp only [rd32, le32, List.cons_append, List.nil_append, rd8_cons_succ]

theorem byte_horner (a : UInt8) (y : Nat) : byte (a.toNat + 256 * y) = a := by
  apply UInt8.toNat_inj.mp
  rw [byte_toNat, Nat.add_mul_mod_self_left, Nat.mod_eq_of_lt a.toNat_lt]

theorem horner_div (a : UInt8) (y : Nat) : (a.toNat + 256 * y) / 256 = y := by
  rw [Nat.add_mul_div_left _ _ (by decide), Nat.div_eq_of_lt a.toNat_lt, Nat.zero_add]

theorem le32_rd32 (a b c d : UInt8) (rest : Bytes) : le32 (rd32 (a :: b :: c :: d :: rest) 0) = [a, b, c, d] := by
  -- Horner form: each byte is its lowest digit (`byte_horner`), each shift drops one (`horner_div`)
  have hx : rd32 (a :: b :: c :: d :: rest) 0 =
      a.toNat + 256 * (b.toNat + 256 * (c.toNat + 256 * (d.toNat + 256 * 0))) := by
    simp only [rd32, rd8_cons_zero, rd8_cons_succ]; omega
  have d2 : ∀ n, n / 65536 = n / 256 / 256 := fun n => (Nat.div_div_eq_div_mul n 256 256).symm
  have d3 : ∀ n, n / 16777216 = n / 256 / 256 / 256 := fun n => by
    rw [Nat.div_div_eq_div_mul, Nat.div_div_eq_div_mul]
  rw [hx, le32, d2, d3]
  simp only [horner_div, byte_horner]

theorem le32_rd32_at (b : Bytes) (i : Nat) (h : i + 4 ≤ b.length) : le32 (rd32 b i) = (b.drop i).take 4 := by
  have hl : 4 ≤ (b.drop i).length := by simp; omega
  have e : rd32 b i = rd32 (b.drop i) 0 := by simp only [rd32, rd8_drop, Nat.zero_add, Nat.add_zero]
  rw [e]
  match b.drop i, hl with
  | a :: b' :: c :: d :: rest, _ => exact le32_rd32 a b' c d rest

theorem le32_rd32_take (b : Bytes) (i n : Nat) (h : i + 4 ≤ b.length) :
    le32 (rd32 b i) ++ (b.drop (i + 4)).take n = (b.drop i).take (4 + n) := by
  rw [le32_rd32_at b i h, List.take_add, List.drop_drop]

@[simp] theorem Hdr.bytes_length (h : Hdr) : h.bytes.length = 16 := rfl

theorem Hdr.parse_bytes (h : Hdr) (rest : Bytes) :
    Hdr.parse (h.bytes ++ rest) =
      { len := h.len % 4294967296, typ := h.typ % 65536, flags := h.flags % 65536,
        seq := h.seq % 4294967296, pid := h.pid % 4294967296 } := by
  simp only [Hdr.parse, Hdr.bytes, rd32, rd16, le32, le16, List.cons_append, List.nil_append,
    rd8_cons_zero, rd8_cons_succ, byte_toNat, Hdr.mk.injEq]
  exact ⟨split32 _, split16 _, split16 _, split32 _, split32 _⟩

theorem Hdr.parse_bytes_wf (h : Hdr) (hw : h.WF) (rest : Bytes) : Hdr.parse (h.bytes ++ rest) = h := by
  obtain ⟨h1, h2, h3, h4, h5⟩ := hw
  rw [Hdr.parse_bytes, Nat.mod_eq_of_lt h1, Nat.mod_eq_of_lt h2, Nat.mod_eq_of_lt h3, Nat.mod_eq_of_lt h4,
    Nat.mod_eq_of_lt h5]

theorem Hdr.parse_wf (b : Bytes) : (Hdr.parse b).WF :=
  ⟨rd32_lt _ _, rd16_lt _ _, rd16_lt _ _, rd32_lt _ _, rd32_lt _ _⟩

theorem Hdr.parse_take (b : Bytes) : Hdr.parse (b.take 16) = Hdr.parse b := by
  simp only [Hdr.parse, rd32, rd16, rd8_take, Nat.reduceAdd, Nat.reduceLT]

theorem serialize_length (m : Msg) : (serialize m).length = 16 + m.data.length := by
  simp [serialize]

theorem parseAudit_of_le {buf : Bytes} (h : 16 ≤ buf.length) :
    parseAudit buf = .ok { hdr := Hdr.parse buf, data := buf.drop 16 } := by
  have : ¬ buf.length < 16 := by omega
  simp [parseAudit, unsafeRead, NLMSG_HDRLEN, this, h, Hdr.parse_take]

theorem parseAudit_of_lt {buf : Bytes} (h : buf.length < 16) : parseAudit buf = .err := by
  simp [parseAudit, NLMSG_HDRLEN, h]

theorem parseNetlinkError_drop (b : Bytes) (hb : 16 ≤ b.length) :
    parseNetlinkError (b.drop 16) =
      if b.length < 20 then .short else if rd32 b 16 = 0 then .none else .errno (errnoOf (rd32 b 16)) := by
  have hr : rd32 ((b.drop 16).take 4) 0 = rd32 b 16 := by simp only [rd32, rd8_take, rd8_drop, Nat.reduceAdd, Nat.reduceLT]
  rw [parseNetlinkError, unsafeRead, List.length_drop]
  by_cases h : b.length < 20
  · rw [if_neg (by omega), if_pos h]
  · rw [if_pos (by omega), if_pos (by omega), if_neg h]
    simp only [hr]

/-- the kernel writes `-errno` as a 32-bit word -/
theorem errnoOf_neg (e : Nat) (h1 : 1 ≤ e) (h2 : e < 2147483648) : errnoOf (4294967296 - e) = e := by
  unfold errnoOf
  rw [if_pos (by omega)]
  omega

theorem serialize_drop (m : Msg) : (serialize m).drop 16 = m.data :=
  List.drop_left' (Hdr.bytes_length _)

theorem Hdr.parse_serialize (m : Msg) (hw : m.hdr.WF) (hl : 16 + m.data.length < 4294967296) :
    Hdr.parse (serialize m) = { m.hdr with len := 16 + m.data.length } :=
  (Hdr.parse_bytes_wf { m.hdr with len := (16 + m.data.length) % 4294967296 } ⟨Nat.mod_lt _ (by decide), hw.2⟩ m.data).trans
    (by rw [Nat.mod_eq_of_lt hl])

/-- the sequence numbers of a log of (sender, number) pairs -/
def vals (l : List (Nat × Nat)) : List Nat := l.map (·.2)

theorem vals_concat (l : List (Nat × Nat)) (t q : Nat) : vals (l ++ [(t, q)]) = vals l ++ [q] := by
  simp [vals]

theorem mem_of_vals_nodup {l : List (Nat × Nat)} (hn : (vals l).Nodup) {a b q : Nat}
    (ha : (a, q) ∈ l) (hb : (b, q) ∈ l) : a = b := by
  induction l with
  | nil => simp at ha
  | cons x l ih =>
    simp only [vals, List.map_cons, List.nodup_cons] at hn
    rcases List.mem_cons.mp ha with ha | ha <;> rcases List.mem_cons.mp hb with hb | hb
    · rw [← ha] at hb; exact (Prod.mk.inj hb).1.symm
    · exfalso; apply hn.1; rw [← ha]; exact List.mem_map.mpr ⟨(b, q), hb, rfl⟩
    · exfalso; apply hn.1; rw [← hb]; exact List.mem_map.mpr ⟨(a, q), ha, rfl⟩
    · exact ih hn.2 ha hb

/-- invariant of the interleaved Send model, for a run that started with counter `c0` and has not wrapped; `per_tid`: what a
sender has on the wire, then what it has in hand, is what it obtained -/
structure CInv (c0 : Nat) (s : CSt) : Prop where
  seq_eq   : s.seq = c0 + s.adds.length
  adds_eq  : vals s.adds = List.range' (c0 + 1) s.adds.length
  wire_sub : ∀ x ∈ s.wire, x ∈ s.adds
  wire_nd  : (vals s.wire).Nodup
  cur_mem  : ∀ t q, s.cur t = some q → (t, q) ∈ s.adds ∧ q ∉ vals s.wire
  per_tid  : ∀ t, s.wire.filter (·.1 == t) ++ (s.cur t).toList.map (t, ·) = s.adds.filter (·.1 == t)

theorem cinv_init (c0 : Nat) : CInv c0 (CSt.init c0) := by
  refine ⟨by simp [CSt.init], by simp [CSt.init, vals], by simp [CSt.init], by simp [CSt.init, vals], ?_, ?_⟩
  · intro t q h; simp [CSt.init] at h
  · intro t; simp [CSt.init]

theorem adds_nodup {c0 : Nat} {s : CSt} (h : CInv c0 s) : (vals s.adds).Nodup := by
  rw [h.adds_eq]; exact List.nodup_range' ..

theorem cinv_step {c0 : Nat} {s : CSt} (h : CInv c0 s) (tid : Nat)
    (hb : c0 + s.adds.length + 1 < 4294967296) : CInv c0 (cstep s tid) := by
  -- either step appends a pair of `tid`'s to one of the logs: only `tid`'s own sublist sees it (used for `per_tid`)
  have own (l : List (Nat × Nat)) (q t : Nat) :
      (l ++ [(tid, q)]).filter (·.1 == t) = l.filter (·.1 == t) ++ if t = tid then [(tid, q)] else [] := by
    simp [List.filter_append, List.filter_cons, eq_comm (a := tid)]
  unfold cstep
  cases hc : s.cur tid with
  | none =>
    -- the atomic add: the value obtained is larger than every earlier one, hence new to `adds` and to the wire
    have hq : (s.seq + 1) % 4294967296 = c0 + s.adds.length + 1 := by
      rw [h.seq_eq]; exact Nat.mod_eq_of_lt hb
    simp only [hq]
    have hfresh : c0 + s.adds.length + 1 ∉ vals s.adds := by
      rw [h.adds_eq]
      simp only [List.mem_range', Nat.one_mul, not_exists, not_and]
      intro x _; omega
    refine ⟨by simp; omega, ?_, ?_, h.wire_nd, ?_, ?_⟩
    · rw [vals_concat, h.adds_eq, List.length_append, List.length_singleton, List.range'_concat, Nat.one_mul,
        Nat.add_right_comm c0 1]
    · intro x hx; exact List.mem_append_left _ (h.wire_sub x hx)
    · intro t q hq'
      by_cases ht : t = tid
      · subst ht
        simp only [if_true] at hq'
        cases hq'
        exact ⟨by simp, fun hmem => hfresh (List.map_subset _ (fun x hx => h.wire_sub x hx) hmem)⟩
      · simp only [ht, if_false] at hq'
        exact ⟨List.mem_append_left _ (h.cur_mem t q hq').1, (h.cur_mem t q hq').2⟩
    · intro t
      rw [own, ← h.per_tid t]
      by_cases ht : t = tid <;> simp [ht, hc]
  | some q =>
    -- the sendto: `q` is not on the wire yet, and no other sender holds it since the values in `adds` are distinct
    simp only
    have hmem := h.cur_mem tid q hc
    refine ⟨h.seq_eq, h.adds_eq, ?_, ?_, ?_, ?_⟩
    · intro x hx
      rcases List.mem_append.mp hx with hx | hx
      · exact h.wire_sub x hx
      · simp only [List.mem_singleton] at hx; subst hx; exact hmem.1
    · rw [vals_concat, List.nodup_append]
      refine ⟨h.wire_nd, by simp, fun a ha b hb' e => ?_⟩
      rw [List.mem_singleton.mp hb'] at e
      exact hmem.2 (e ▸ ha)
    · intro t q' hq'
      by_cases ht : t = tid
      · simp [ht] at hq'
      · simp only [ht, if_false] at hq'
        have hm := h.cur_mem t q' hq'
        refine ⟨hm.1, ?_⟩
        rw [vals_concat, List.mem_append, List.mem_singleton, not_or]
        exact ⟨hm.2, fun e => ht (mem_of_vals_nodup (adds_nodup h) hm.1 (e ▸ hmem.1))⟩
    · intro t
      rw [own, ← h.per_tid t]
      by_cases ht : t = tid <;> simp [ht, hc]

theorem adds_length_step (s : CSt) (tid : Nat) : (cstep s tid).adds.length ≤ s.adds.length + 1 := by
  unfold cstep
  cases s.cur tid <;> simp

theorem cinv_run {c0 : Nat} (sched : List Nat) {s : CSt} (h : CInv c0 s)
    (hb : c0 + s.adds.length + sched.length < 4294967296) : CInv c0 (crun s sched) := by
  induction sched generalizing s with
  | nil => exact h
  | cons t ts ih =>
    simp only [crun]
    simp only [List.length_cons] at hb
    apply ih (cinv_step h t (by omega))
    have := adds_length_step s t
    omega

end LA.Netlink
