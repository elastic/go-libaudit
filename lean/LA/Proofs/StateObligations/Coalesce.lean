/- Package aucoalesce: see LA.Proofs.StateObligations.Root. -/
import LA.Proofs.StateFacts

namespace LA.StateFacts

theorem ofPkg_aucoalesce : ofPkg "aucoalesce" = coalesceIdCaches := Eq.refl _
theorem envOf_aucoalesce : envOf "aucoalesce" = coalesceEnv := Eq.refl _

end LA.StateFacts
