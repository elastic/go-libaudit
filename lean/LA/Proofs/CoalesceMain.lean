/-
What the finished event holds, end to end: a pair the record loop kept is still `Located` or
`Warned` after `applyNormalization` and `addProcess`; identity, Paths and Tags are those of the
assembled event; the file summary mirrors the selected PATH record, whose `mode` is an octal numeral.
-/
import LA.Proofs.CoalesceFold
import LA.Proofs.CoalesceNorm

namespace LA.Coalesce

/-- the places of an event where the value `v` of a record's key `k` can be found; `C09_located_iff` says them in the
terms of the library. -/
def Located (e : Event) (k v : Bytes) : Prop :=
  lookup k e.data = some v ∨ lookup (kSocket_ ++ k) e.data = some v ∨
  StableLoc e k v ∨ ArgsLoc e k v ∨ ProcLoc e k v ∨ (∃ a, e.source = some a ∧ a.ip = v)

section
variable {e : Event} {k v : Bytes}

theorem Located.ofData (h : lookup k e.data = some v) : Located e k v := Or.inl h
theorem Located.ofSocketData (h : lookup (kSocket_ ++ k) e.data = some v) : Located e k v := Or.inr (Or.inl h)
theorem Located.ofStable (h : StableLoc e k v) : Located e k v := Or.inr (Or.inr (Or.inl h))
theorem Located.ofArgs (h : ArgsLoc e k v) : Located e k v := Or.inr (Or.inr (Or.inr (Or.inl h)))
theorem Located.ofProc (h : ProcLoc e k v) : Located e k v := Or.inr (Or.inr (Or.inr (Or.inr (Or.inl h))))
theorem Located.ofSource (h : ∃ a, e.source = some a ∧ a.ip = v) : Located e k v :=
  Or.inr (Or.inr (Or.inr (Or.inr (Or.inr h))))

end

theorem socket_not_proc (k v : Bytes) (e : Event) : ¬ ProcLoc e (kSocket_ ++ k) v := by
  intro h
  -- none of the six keys begins with `s`
  rcases h with ⟨h, _⟩ | ⟨h, _⟩ | ⟨h, _⟩ | ⟨h, _⟩ | ⟨h, _⟩ | ⟨h, _⟩ <;> cases h

theorem finish_kept {T : Tables} {e0 e1 : Event} (h1 : applyNorm T e0 = .ok e1) {typ : Nat} {k v : Bytes}
    (h : Held e0 typ k v) : Located (addProcess e1) k v ∨ Warned (addProcess e1) typ k := by
  have hn := applyNorm_nframe T e0 e1 h1
  have hdata : ∀ κ, lookup κ e0.data = some v → lookup κ (addProcess e1).data = some v ∨
      ProcLoc (addProcess e1) κ v ∨ ∃ a, (addProcess e1).source = some a ∧ a.ip = v := fun κ h =>
    (hn.data κ v h).elim (fun h => (addProcess_data e1 h).imp id Or.inl) (fun h => Or.inr (Or.inr h))
  have hloc : lookup k e0.data = some v → Located (addProcess e1) k v := fun h =>
    (hdata k h).elim .ofData (Or.elim · .ofProc .ofSource)
  cases h with
  | settled h =>
    cases h with
    | stable h =>
      exact Or.inl (.ofStable (h.of_fields hn.ids hn.selinux hn.result hn.session (fun p hp => hn.paths ▸ hp)))
    | warned h => exact Or.inr (h.of_warnings (mem_of_extends hn.warn))
    | data _ h => exact Or.inl (hloc h)
    | socketData h =>
      rcases hdata _ h with h | h | h
      · exact Or.inl (.ofSocketData h)
      · exact absurd h (socket_not_proc k v _)
      · exact Or.inl (.ofSource h)
  | args h => exact Or.inl (.ofArgs (h.of_args hn.args))
  | data h => exact Or.inl (hloc h)

/-- the record whose fields `newEvent` distributes. -/
def primaryView (recs : List View) : Option View :=
  match recs with
  | [] => none
  | [m] => some m
  | _ => recs.find? (fun v => decide (v.typ = SYSCALL))

def tagsOfViews (views : List View) : List Bytes :=
  match primaryView (filterEOE views) with
  | some p => if p.data.isSome then p.tags else []
  | none => []

/-- an event under assembly: identity from the record `first`, Paths and Tags as given (none of
which `applyNormalization` changes), ECS category and type still empty (`setEcs` fills them). -/
structure Assembled (T : Tables) (first : View) (paths : List KV) (tags : List Bytes) (e : Event) : Prop where
  ts : e.ts = first.ts
  seq : e.seq = first.seq
  typ : e.typ = first.typ
  cat : e.cat = categoryOf T first.typ
  paths : e.paths = paths
  tags : e.tags = tags
  ecsCategory : e.ecsCategory = []
  ecsType : e.ecsType = []

theorem newEvent_fields (T : Tables) (first src : View) :
    Assembled T first [] (if src.data.isSome then src.tags else []) (newEvent T first src) := by
  cases hd : src.data with
  | none =>
    unfold newEvent
    rw [hd]
    exact ⟨rfl, rfl, rfl, rfl, rfl, rfl, rfl, rfl⟩
  | some d =>
    rw [newEvent_of_data T first src hd]
    exact ⟨rfl, rfl, rfl, rfl, rfl, rfl, rfl, rfl⟩

theorem assemble_fields {T : Tables} {msgs : List View} {e0 : Event} (h : assemble T msgs = .ok e0) :
    ∃ first rest, filterEOE msgs = first :: rest ∧ Assembled T first
      (if (filterEOE msgs).length ≥ 2 then
        ((filterEOE msgs).filter (fun m => decide (m.typ = PATH))).flatMap (fun m => m.data.toList) else [])
      (tagsOfViews msgs) e0 := by
  unfold tagsOfViews
  rcases assemble_ok_cases h with ⟨m, hm, rfl⟩ | ⟨first, second, rest, s, hm, hs, rfl⟩
  · rw [hm]
    -- for the one-record list `if … ≥ 2` and `primaryView` compute, to the parameters of `newEvent_fields`
    exact ⟨m, [], rfl, newEvent_fields T m m⟩
  · have f := newEvent_fields T first s
    have hf := foldl_step_sframe (first :: second :: rest) (newEvent T first s)
    rw [hm]
    refine ⟨first, second :: rest, rfl, hf.ts.trans f.ts, hf.seq.trans f.seq, hf.typ.trans f.typ,
      hf.cat.trans f.cat, ?_, ?_, hf.ecsCategory.trans f.ecsCategory, hf.ecsType.trans f.ecsType⟩
    · rw [foldl_step_paths, f.paths]; simp
    · rw [hf.tags, f.tags]; simp only [primaryView, hs]

theorem coalesce_paths (T : Tables) (msgs : List View) (e : Event) (h : coalesce T msgs = .ok e) :
    e.paths = if (filterEOE msgs).length ≥ 2 then
      ((filterEOE msgs).filter (fun m => decide (m.typ = PATH))).flatMap (fun m => m.data.toList) else [] := by
  obtain ⟨e0, e1, h0, h1, rfl⟩ := coalesce_ok_split h
  obtain ⟨_, _, _, f⟩ := assemble_fields h0
  exact (applyNorm_nframe T e0 e1 h1).paths.trans f.paths

/-- what `setFileObject` derives from the PATH record `p` it selected. -/
def FileMirrors (e : Event) (objectWhat : Bytes) (p : KV) : Prop :=
  ∃ f, e.file = some f ∧ f.path = getD kName p ∧ f.inode = getD kInode p ∧ f.device = getD kRdev p ∧
    f.owner = [] ∧ f.group = [] ∧
    match lookup kMode p with
    | none =>
      f.mode = [] ∧ f.uid = getD kOuid p ∧ f.gid = getD kOgid p ∧ f.selinux = objLabels p ∧
      e.objType = objectWhat
    | some mv =>
      match parseUint 8 64 mv with
      | none =>
        f.mode = [] ∧ f.uid = [] ∧ f.gid = [] ∧ f.selinux = [] ∧ Warn.fileObj ∈ e.warnings ∧
        e.objType = objectWhat
      | some n =>
        f.mode = oct4 (n % 4096) ∧ f.uid = getD kOuid p ∧ f.gid = getD kOgid p ∧ f.selinux = objLabels p ∧
        e.objType = classifyMode (n % 4294967296) objectWhat

theorem fileFromPath_mirrors (e : Event) (p : KV) : FileMirrors (fileFromPath e p) e.objType p := by
  rw [fileFromPath_eq]
  unfold FileMirrors
  cases lookup kMode p with
  | none => exact ⟨_, rfl, rfl, rfl, rfl, rfl, rfl, rfl, rfl, rfl, rfl, rfl⟩
  | some mv =>
    dsimp only
    cases parseUint 8 64 mv with
    | none =>
      exact ⟨_, rfl, rfl, rfl, rfl, rfl, rfl, rfl, rfl, rfl, rfl, mem_warn e _, rfl⟩
    | some n =>
      -- the permission bits of the 32-bit value are those of `n`: 4096 divides 2^32
      exact ⟨_, rfl, rfl, rfl, rfl, rfl, rfl, congrArg oct4 (Nat.mod_mod_of_dvd n (by decide)), rfl, rfl, rfl, rfl⟩

theorem FileMirrors.mono {e e' : Event} {what : Bytes} {p : KV} (hf : e'.file = e.file)
    (ho : e'.objType = e.objType) (hw : ∀ w ∈ e.warnings, w ∈ e'.warnings) :
    FileMirrors e what p → FileMirrors e' what p := by
  unfold FileMirrors
  rw [hf, ho]
  refine Exists.imp fun f => And.imp_right (And.imp_right (And.imp_right (And.imp_right (And.imp_right
    (And.imp_right ?_)))))
  cases lookup kMode p with
  | none => exact id
  | some mv =>
    dsimp only
    cases parseUint 8 64 mv with
    | none => exact And.imp_right (And.imp_right (And.imp_right (And.imp_right (And.imp_left (hw _)))))
    | some n => exact id

/-- positional value of a list of octal digits, most significant first: what `ParseUint(mode, 8, 64)` reads
of a PATH record's `mode` written with these digits (`parseUint_octal`). -/
def octValue (ds : List Nat) (acc : Nat) : Nat := ds.foldl (fun a d => a * 8 + d) acc

theorem digitVal_digitChar : ∀ d, d < 8 → digitVal (digitChar d) = some d := by decide

theorem parseDigits_octal (ds : List Nat) (hd : ∀ d ∈ ds, d < 8) (acc : Nat) :
    parseDigits 8 (ds.map digitChar) acc = some (octValue ds acc) := by
  induction ds generalizing acc with
  | nil => rfl
  | cons d r ih =>
    obtain ⟨hd0, hr⟩ := List.forall_mem_cons.mp hd
    simp only [List.map_cons, parseDigits, digitVal_digitChar d hd0, hd0, if_true]
    exact ih hr _

theorem parseUint_octal (ds : List Nat) (hne : ds ≠ []) (hd : ∀ d ∈ ds, d < 8)
    (hv : octValue ds 0 < 2 ^ 64) :
    parseUint 8 64 (ds.map digitChar) = some (octValue ds 0) := by
  unfold parseUint
  have : ds.map digitChar ≠ [] := by simpa using hne
  simp only [this, if_false, parseDigits_octal ds hd 0, hv, if_true]

end LA.Coalesce
