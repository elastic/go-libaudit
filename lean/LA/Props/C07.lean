/-
C07 — Decoding a built rule gives text that re-encodes to the same rule.

The wire half holds for every rule Build accepts: its bytes read back as `readBack r` (`C07_wire_roundtrip`), on which
ToCommandLine succeeds (`C07_print_total`, the first clause).
The second clause is proved per field class (`C07_value_reparse`) and then for each of the two lines ToCommandLine prints:
the watch form, printed only for rules that are exactly what `-w` builds (`C07_watch_form_exact`, `C07_roundtrip_watch`),
and the `-a` line, argument by argument (`C07_filter_reparse`, `Printed`) and as a whole (`roundtrip_line`; the theorems
for narrower classes of rules are its corollaries).
The whole-rule statement (text re-parses, bytes identical, text stable) is established by the
correspondence and the monitor on generated rules; three input classes on which it is false of
the code are recorded as known findings (KF-C07-arch-order, KF-C07-backslash,
KF-C07-all-syscalls-listed) and the full statement is kept below as `C07_roundtrip_full`.
-/
import LA.Props.C06
import LA.Proofs.RulePrint
import LA.Proofs.RuleExit
import LA.Proofs.RuleText
import LA.Proofs.RuleParts

namespace LA.Rule
open LA LA.Flags
open LA.Auparse (Res)

/-- the full statement of the property (not proved: false on the recorded finding classes). -/
def C07_roundtrip_full : Prop :=
  ∀ (env : Env) (args : List Bytes) (r : Rule) (b text : Bytes),
    parseArgs args = some r → build env r = Res.ok b →
    toCommandLine b = Res.ok text ∧
    ∃ r', parseArgs (splitByte 32 text) = some r' ∧ build env r' = Res.ok b

theorem fromWire_build (env : Env) (he : EnvOk env) (rule : Rule) (b : Bytes) (h : build env rule = Res.ok b) :
    ∃ r, ruleDataOf env rule = some r ∧ r.trips.length ≤ 64 ∧ fromWire b = Res.ok (ardOf r) := by
  obtain ⟨r, hr, hdec, hlen, hcnt⟩ := C06_build_layout env he rule b h
  have hcnt' : r.trips.length ≤ 64 := by simpa [RuleData.fields] using hcnt
  have := strings_total_le (wordsInv_ruleDataOf he hr)
  exact ⟨r, hr, hcnt', fromWire_of_decode hdec (by omega)⟩

/-- Wire round trip: the library's own decoder (fromWireFormat + fromAuditRuleData, the first half
of ToCommandLine) inverts its encoder on everything rule.Build produces — list, action, every
(field, value, operator) triple in order, every string, and the syscall set (as a set; listed
syscalls come back sorted and de-duplicated). The only loss is the one recorded as
KF-C07-all-syscalls-listed: a mask whose first 63 words are all ones reads back as "all". -/
theorem C07_wire_roundtrip (env : Env) (he : EnvOk env) (rule : Rule) (b : Bytes) (h : build env rule = Res.ok b) :
    ∃ r a r', ruleDataOf env rule = some r ∧ fromWire b = Res.ok a ∧ fromArd a = Res.ok r' ∧
      r'.flags = r.flags ∧ r'.action = r.action ∧ r'.trips = r.trips ∧ r'.strings = r.strings ∧
      (r.allSyscalls = true → r'.allSyscalls = true) ∧
      (r'.allSyscalls = false → ∀ n, n ∈ r'.syscalls ↔ n ∈ r.syscalls) := by
  obtain ⟨r, hr, hcnt, hfw⟩ := fromWire_build env he rule b h
  refine ⟨r, _, _, hr, hfw, fromArd_ardOf (aligned_ruleDataOf hr) hcnt, rfl, rfl, rfl, rfl, ?_, ?_⟩
  · exact maskOf_all_full
  · intro hfalse n
    have hfull : ¬ ((maskOf r).take 63).all (· == 0xFFFFFFFF) = true := Bool.eq_false_iff.mp hfalse
    rw [readBack, if_neg hfull, List.mem_filter, List.mem_range, List.contains_eq_mem, decide_eq_true_eq]
    exact and_iff_right_of_imp ((wordsInv_ruleDataOf he hr).syscalls n)

/-- First clause of C07: for every rule that Build accepts, ToCommandLine succeeds on its wire
form — every list, action, operator, field and comparison code Build can emit has a name, every
architecture it accepts can be displayed, and the strings are where the printer looks for them. -/
theorem C07_print_total (env : Env) (he : EnvOk env) (rule : Rule) (b : Bytes) (h : build env rule = Res.ok b) :
    ∃ text, toCommandLine b = Res.ok text := by
  obtain ⟨r, hr, hcnt, hfw⟩ := fromWire_build env he rule b h
  have hp := printInv_ruleDataOf he hr
  have hal := aligned_ruleDataOf hr
  -- what is printed is `readBack r`, which has the list, action, triples and strings of `r`
  obtain ⟨text, hc⟩ := Option.isSome_iff_exists.mp (cmdLineOf_isSome (readBack r) hp.list hp.action hp.trips hal)
  exact ⟨text, by rw [toCommandLine, hfw, res_bind_ok, fromArd_ardOf hal hcnt, res_bind_ok, hc]⟩

/-- A test on the rule data that fromWire and fromAuditRuleData read back from the bytes Build produces can be evaluated on
the rule data Build accumulated: the thousand and more bytes in between need not be computed. -/
theorem build_readBack_eval {env : Env} (he : EnvOk env) {rule : Rule} {x : Res Bytes} (hx : build env rule = x) (Q : RuleData → Bool)
    (h : (ruleDataOf env rule).any (fun r => decide (r.trips.length ≤ 64) && Q (readBack r)) = true) :
    ∃ b a r', x = Res.ok b ∧ fromWire b = Res.ok a ∧ fromArd a = Res.ok r' ∧ Q r' = true := by
  subst hx
  obtain ⟨r, hr, hq⟩ := (Option.any_eq_true _ _).mp h
  rw [Bool.and_eq_true, decide_eq_true_eq] at hq
  have hb : build env rule = toWire r := by simp only [build, hr]
  rw [toWire_eq, if_neg (Nat.not_lt.mpr hq.1)] at hb
  obtain ⟨r', hr', -, hfw⟩ := fromWire_build env he rule _ hb
  cases hr.symm.trans hr'
  exact ⟨_, _, _, hb, hfw, fromArd_ardOf (aligned_ruleDataOf hr) hq.1, hq.2⟩

/-- non-vacuity of the wire round trip: a rule with a string field, a numeric field, two syscalls. -/
example : (match build ⟨false, [], []⟩ (.syscall 3 (ofString "exit") (ofString "always")
    [⟨2, ofString "path", [61], ofString "/etc/passwd"⟩, ⟨2, ofString "pid", [61], ofString "1"⟩] [ofString "2", ofString "59"] [ofString "k"]) with
    | .ok b => (match fromWire b with
      | .ok a => (match fromArd a with
        | .ok r => decide (r.syscalls = [2, 59] ∧ r.strings = [ofString "/etc/passwd", ofString "k"] ∧ r.trips.length = 3)
        | _ => false)
      | _ => false)
    | _ => false) = true := by
  generalize hx : build _ _ = x
  obtain ⟨b, a, r, rfl, hfw, hfa, hq⟩ := build_readBack_eval ⟨by simp, by simp⟩ hx
    (fun r => decide (r.syscalls = [2, 59] ∧ r.strings = [ofString "/etc/passwd", ofString "k"] ∧ r.trips.length = 3))
    (by decide +kernel)
  simp only [hfw, hfa]
  exact hq

/-- uid class: every 32-bit value is printed in a form the uid parser maps back to it
(4294967295 is printed as -1, everything else unsigned). -/
theorem C07_uid_print_parse (env : Env) (v : Nat) (h : v < 4294967296) :
    getUID env (if v == 4294967295 then ofString "-1" else dec v) = some v := by
  by_cases hv : v = 4294967295
  · subst hv; simp [getUID, ofString]
  · have h1 : (dec v == ofString "unset") = false := dec_beq_word v 117 _ (by omega)
    have h2 : (dec v == ofString "-1") = false := dec_beq_word v 45 _ (by omega)
    simp only [beq_false_of_ne hv, getUID, h1, h2, Bool.or_false, Bool.false_eq_true, if_false, parseUintGo_dec10 v 32 (by omega)]
    simp

/-- gid class: printed unsigned, parsed back to the same word. -/
theorem C07_gid_print_parse (env : Env) (v : Nat) (h : v < 4294967296) : getGID env (dec v) = some v := by
  simp [getGID, parseUintGo_dec10 v 32 (by omega)]

/-- generic numeric fields (pid, a0–a3, inode, devmajor, …) and numeric filetype / msgtype above
65535: printed as unsigned decimal, parsed back (base-0 parser) to the same word. -/
theorem C07_num_print_parse (v : Nat) (h : v < 4294967296) : parseNum (dec v) = some v := by
  obtain ⟨d, tl, hd, hd'⟩ := dec_cons_digit v
  unfold parseNum
  have hp := parseUintGo_dec0 v 32 (by omega)
  rw [hd] at hp ⊢
  split
  · rename_i heq; cases eq_of_beq heq; omega
  · simp [hp]

theorem C07_msgtype_number (v : Nat) (h : v < 4294967296) : getAuditMsgType (dec v) = some v := by
  simp [getAuditMsgType, parseUintGo_dec0 v 32 (by omega)]

/-- perm: the printed letters parse back to the same permission bits (for the 16 valid words). -/
theorem C07_perm_print_parse : ∀ bits < 16, getPerm (permString bits) = some bits := by decide +kernel

/-- filetype: each of the seven S_IF* values, printed as a number, is accepted and maps back:
the name lookup misses (every name starts with a letter), the number is one of the seven. -/
theorem C07_filetype_print_parse :
    ∀ p ∈ filetypeNames, getFiletype (dec p.2) = some p.2 ∧ getFiletype p.1 = some p.2 := by
  have cert : filetypeNames.all (fun p => getFiletype p.1 == some p.2 && decide (p.2 < 4294967296) &&
      p.1.head?.any (fun c => decide (97 ≤ c))) = true := by decide +kernel
  intro p hp
  have hc := List.all_eq_true.mp cert p hp
  simp only [Bool.and_eq_true, beq_iff_eq, decide_eq_true_eq] at hc
  refine ⟨?_, hc.1.1⟩
  have hmap : (dec p.2).map lowerB = dec p.2 := by
    refine (List.map_congr_left (g := id) (fun b hb => ?_)).trans (List.map_id _)
    have := dec_digits p.2 b hb
    simp only [isDigit, Bool.and_eq_true, decide_eq_true_eq] at this
    simp only [lowerB, id]; rw [if_neg (by omega)]
  have hlk : lookupB filetypeNames (dec p.2) = none := by
    unfold lookupB
    rw [List.find?_eq_none.mpr, Option.map_none]
    intro q hq
    have hq' := List.all_eq_true.mp cert q hq
    rw [Bool.and_eq_true] at hq'
    obtain ⟨c, tl, hq1, hc⟩ := head_of_any hq'.2
    have := dec_beq_word p.2 c tl (Or.inr (by have := of_decide_eq_true hc; omega))
    rw [hq1]
    exact fun h => beq_eq_false_iff_ne.mp this (beq_iff_eq.mp h).symm
  unfold getFiletype
  rw [hmap, hlk]
  simp only [parseUintGo_dec10 p.2 32 (by omega)]
  have hany : filetypeNames.any (fun q => ((q.2 : Nat) : Int) == ((p.2 : Nat) : Int)) = true :=
    List.any_eq_true.mpr ⟨p, hp, by simp⟩
  simp [hany]

/-- msgtype up to 65535 is printed as its record type name (or UNKNOWN[n]) and the parser maps
the name back: no record type name is a number, so the numeric parser reports a syntax error
and the name lookup takes over. -/
theorem C07_msgtype_name (t : Nat) (h : t < 65536) : getAuditMsgType (MsgType.typeName t) = some t := by
  obtain ⟨d, tl, hd, hd1, hd2⟩ := typeName_head t
  unfold getAuditMsgType
  rw [hd, parseUintGo_nondigit d tl 0 32 (Or.inl rfl) (by omega) (by omega), ← hd]
  exact MsgType.type_roundtrip t h

/-- exit class: every 32-bit exit value is printed (as -ENAME when the negated value is a known
errno, else as a signed decimal) in a form getExitCode reads back to the same word. -/
theorem C07_exit_print_parse (v : Nat) (h : v < 4294967296) :
    ∃ c, getExitCode (exitString v) = some c ∧ toU32 c = v := by
  unfold exitString
  simp only
  generalize hcode : (if v ≥ 2147483648 then (v : Int) - 4294967296 else (v : Int)) = code
  have hrange : -2147483648 ≤ code ∧ code < 2147483648 := by
    rw [← hcode]; split <;> omega
  have hback : toU32 code = v := by
    rw [← hcode]; unfold toU32; split <;> omega
  refine ⟨code, ?_, hback⟩
  cases hn : (if code ≤ 0 then Tables.errnoName (-code).toNat else none) with
  | some name =>
    obtain ⟨hle, hn⟩ := Option.ite_none_right_eq_some.mp hn
    rw [getExitCode_errno hn]
    simp only [Option.some.injEq]
    omega
  | none => exact getExitCode_decInt code hrange

/-- `numValue` and `fieldRhs` test the field in different orders: here parser and printer stand side by side, class by class. -/
theorem numField_cases (env : Env) (f : Nat) :
    ((∀ s, numValue env f s = getUID env s) ∧ ∀ v, fieldRhs f v = if v == 4294967295 then ofString "-1" else dec v) ∨
    ((∀ s, numValue env f s = (getExitCode s).map toU32) ∧ ∀ v, fieldRhs f v = exitString v) ∨
    ((∀ s, numValue env f s = getAuditMsgType s) ∧ ∀ v, fieldRhs f v = if v ≤ 65535 then MsgType.typeName v else dec v) ∨
    (f = LA.Gen.RuleTables.permField ∧ (∀ s, numValue env f s = getPerm s) ∧ ∀ v, fieldRhs f v = permString v) ∨
    ((∀ v, fieldRhs f v = dec v) ∧
      ((∀ s, numValue env f s = getGID env s) ∨ (∀ s, numValue env f s = getFiletype s) ∨ (∀ s, numValue env f s = parseNum s) ∨
       ∀ s, numValue env f s = (parseNum s).bind (fun n => if n == 2 || n == 10 then some n else none))) := by
  -- on the three fields that both cascades name, both reduce by evaluation
  by_cases c3 : f = LA.Gen.RuleTables.exitField
  · subst c3; exact .inr (.inl ⟨fun _ => rfl, fun _ => rfl⟩)
  by_cases c4 : f = LA.Gen.RuleTables.msgTypeField
  · subst c4; exact .inr (.inr (.inl ⟨fun _ => rfl, fun _ => rfl⟩))
  by_cases c5 : f = LA.Gen.RuleTables.permField
  · subst c5; exact .inr (.inr (.inr (.inl ⟨rfl, fun _ => rfl, fun _ => rfl⟩)))
  unfold numValue fieldRhs
  rw [beq_false_of_ne c3, beq_false_of_ne c4, beq_false_of_ne c5]
  cases uidFields.contains f with
  | true => exact .inl ⟨fun _ => rfl, fun _ => rfl⟩
  | false =>
  -- every other field is printed in decimal
  refine .inr (.inr (.inr (.inr ⟨fun _ => rfl, ?_⟩)))
  cases gidFields.contains f with
  | true => exact .inl fun _ => rfl
  | false =>
  cases f == LA.Gen.RuleTables.filetypeField with
  | true => exact .inr (.inl fun _ => rfl)
  | false =>
  cases f == LA.Gen.RuleTables.inodeField with
  | true => exact .inr (.inr (.inl fun _ => rfl))
  | false =>
  cases f == LA.Gen.RuleTables.saddrFamField with
  | true => exact .inr (.inr (.inr fun _ => rfl))
  | false => exact .inr (.inr (.inl fun _ => rfl))

theorem numValue_reparse (env : Env) (he : EnvOk env) (f : Nat) (rhs : Bytes) (v : Nat)
    (h : numValue env f rhs = some v) : numValue env f (fieldRhs f v) = some v := by
  rcases numField_cases env f with ⟨hn, hr⟩ | ⟨hn, hr⟩ | ⟨hn, hr⟩ | ⟨-, hn, hr⟩ | ⟨hr, hn | hn | hn | hn⟩ <;>
    rw [hn] at h ⊢ <;> rw [hr]
  · exact C07_uid_print_parse env v (getUID_lt he h)
  · obtain ⟨w, _, hv⟩ := Option.map_eq_some_iff.mp h
    obtain ⟨c, hc1, hc2⟩ := C07_exit_print_parse v (by rw [← hv]; exact toU32_lt w)
    rw [hc1, Option.map_some, hc2]
  · by_cases hv : v ≤ 65535
    · rw [if_pos hv]; exact C07_msgtype_name v (by omega)
    · rw [if_neg hv]; exact C07_msgtype_number v (getAuditMsgType_lt h)
  · exact C07_perm_print_parse v (getPerm_lt16 h)
  · exact C07_gid_print_parse env v (getGID_lt he h)
  · obtain ⟨p, hp1, rfl⟩ := getFiletype_mem h
    exact (C07_filetype_print_parse p hp1).1
  · exact C07_num_print_parse v (parseNum_lt h)
  · obtain ⟨hp, hc⟩ := saddrFam_some h
    rw [C07_num_print_parse v (parseNum_lt hp), Option.bind_some, if_pos hc]

/-- One statement for every numeric filter: whatever value word Build computed for a filter on
field `f` (any field except the string-valued ones and arch, which are covered by
`C07_wire_roundtrip` and `C07_print_total`), the text ToCommandLine prints for that word
(`fieldRhs f v`) is accepted by the same value parser under the same list and operator and
yields the same word. -/
theorem C07_value_reparse (env : Env) (he : EnvOk env) (r : RuleData) (f opc : Nat) (rhs : Bytes) (v : Nat)
    (a : Option Bytes) (hs : stringFields.contains f = false) (harch : (f == LA.Gen.RuleTables.archField) = false)
    (h : filterValue env r f opc rhs = some (v, none, a)) :
    filterValue env r f opc (fieldRhs f v) = some (v, none, none) := by
  -- the side conditions do not look at the value text
  obtain ⟨hg, hv⟩ := filterValue_num hs harch h
  rw [filterValue_eq]
  simp only [hs, harch, hg, Bool.false_eq_true, if_false, if_true, numValue_reparse env he f rhs v hv, Option.map_some]

theorem list_len2 {α : Type} {l : List α} (h : l.length = 2) : ∃ a b, l = [a, b] :=
  match l, h with | [a, b], _ => ⟨a, b, rfl⟩

theorem list_len3 {α : Type} {l : List α} (h : l.length = 3) : ∃ a b c, l = [a, b, c] :=
  match l, h with | [a, b, c], _ => ⟨a, b, c, rfl⟩

theorem asFileWatch_some {r : RuleData} {path perm key : Bytes} (h : asFileWatch r = some (path, perm, key)) :
    r.allSyscalls = true ∧ r.flags = LA.Gen.RuleTables.exitFilter ∧ r.action = LA.Gen.RuleTables.alwaysAction ∧
    ∃ f0 v0 v1, (f0 = LA.Gen.RuleTables.pathField ∨ f0 = LA.Gen.RuleTables.dirField) ∧
      path.head? = some 47 ∧ pathClean path = path ∧ v1 ≠ 0 ∧ v1 < 16 ∧ perm = permString v1 ∧
      ((key = [] ∧ r.trips = [(f0, v0, eqOp), (LA.Gen.RuleTables.permField, v1, eqOp)] ∧ r.strings = [path]) ∨
       (key ≠ [] ∧ (44 : Nat) ∉ key ∧ ∃ v2, r.trips = [(f0, v0, eqOp), (LA.Gen.RuleTables.permField, v1, eqOp), (LA.Gen.RuleTables.keyField, v2, eqOp)] ∧
          r.strings = [path, key])) := by
  -- each `if … then none else …` of asFileWatch is peeled by `Option.ite_none_left_eq_some`; `split at h` is slow on a term of this size
  unfold asFileWatch at h
  simp only [Option.ite_none_left_eq_some, Bool.or_eq_true, Bool.not_eq_true', bne_iff_ne, ne_eq, Bool.and_eq_true, not_or, not_and,
    Decidable.not_not, Bool.not_eq_false, RuleData.fields, RuleData.values, RuleData.fieldFlags, List.length_map] at h
  obtain ⟨⟨⟨⟨⟨h1, h2⟩, h3⟩, h4⟩, h5⟩, hops, h⟩ := h
  refine ⟨h1, h2, h3, ?_⟩
  have hand : ∀ v, v &&& 15 = v → v < 16 := fun v hv => by
    have : v &&& 15 ≤ 15 := Nat.and_le_right
    omega
  by_cases hn : r.trips.length = 2
  · -- two fields, one string
    obtain ⟨⟨f0, v0, o0⟩, ⟨f1, v1, o1⟩, ht⟩ := list_len2 hn
    obtain ⟨p, hs⟩ := (List.length_eq_one_iff (l := r.strings)).mp (by rw [h5, hn])
    simp only [ht, hs, List.map_cons, List.map_nil, List.all_cons, List.all_nil, Bool.and_true, Bool.and_eq_true, beq_iff_eq,
      Option.ite_none_left_eq_some, not_or, not_and, Decidable.not_not, Option.some.injEq, Prod.mk.injEq] at h hops
    obtain ⟨⟨hf0, rfl⟩, hp, hv, rfl, rfl, rfl⟩ := h
    obtain ⟨rfl, rfl⟩ := hops
    exact ⟨f0, v0, v1, Decidable.or_iff_not_imp_left.mpr hf0, hp.1, hp.2, hv.1, hand _ hv.2, rfl, Or.inl ⟨rfl, ht, hs⟩⟩
  · -- three fields, two strings
    have hn3 := h4 hn
    obtain ⟨⟨f0, v0, o0⟩, ⟨f1, v1, o1⟩, ⟨f2, v2, o2⟩, ht⟩ := list_len3 hn3
    obtain ⟨p, k, hs⟩ := list_len2 (l := r.strings) (by rw [h5, hn3])
    simp only [ht, hs, List.map_cons, List.map_nil, List.all_cons, List.all_nil, Bool.and_true, Bool.and_eq_true, beq_iff_eq,
      Option.ite_none_left_eq_some, not_or, not_and, Decidable.not_not, Option.some.injEq, Prod.mk.injEq,
      List.isEmpty_iff, List.contains_eq_mem, decide_eq_true_eq] at h hops
    obtain ⟨⟨hf0, rfl⟩, hp, hv, ⟨⟨rfl, hk1⟩, hk2⟩, rfl, rfl, rfl⟩ := h
    obtain ⟨rfl, rfl, rfl⟩ := hops
    exact ⟨f0, v0, v1, Decidable.or_iff_not_imp_left.mpr hf0, hp.1, hp.2, hv.1, hand _ hv.2, rfl,
      Or.inr ⟨hk1, hk2, v2, ht, hs⟩⟩

/-- The watch form (-w PATH -p PERM [-k KEY]) is used only for rules that are exactly what -w
builds: always,exit, all syscalls, path=/dir= then perm= then optionally key=, all with '=',
a clean absolute path, a non-empty permission set, a key without comma. -/
theorem C07_watch_form_exact (r : RuleData) (path perm key : Bytes) (h : asFileWatch r = some (path, perm, key)) :
    r.allSyscalls = true ∧ r.flags = LA.Gen.RuleTables.exitFilter ∧ r.action = LA.Gen.RuleTables.alwaysAction ∧
    (r.fields.length = 2 ∨ r.fields.length = 3) ∧ r.fieldFlags.all (· == eqOp) = true := by
  obtain ⟨h1, h2, h3, f0, v0, v1, -, -, -, -, -, -, hsh⟩ := asFileWatch_some h
  refine ⟨h1, h2, h3, ?_⟩
  rcases hsh with ⟨-, ht, -⟩ | ⟨-, -, v2, ht, -⟩ <;> simp [RuleData.fields, RuleData.fieldFlags, ht]

/-- no watch form for a rule that names its syscalls, nor without a string. -/
theorem asFileWatch_none {r : RuleData} (h : r.allSyscalls = false ∨ r.strings = []) : asFileWatch r = none := by
  cases hw : asFileWatch r with
  | none => rfl
  | some w =>
    obtain ⟨hall, -, -, _, _, _, -, -, -, -, -, -, hshape⟩ := asFileWatch_some (path := w.1) (perm := w.2.1) (key := w.2.2) hw
    rcases h with h | h
    · rw [h] at hall; cases hall
    · rcases hshape with ⟨-, -, hs⟩ | ⟨-, -, _, -, hs⟩ <;> rw [h] at hs <;> cases hs

theorem perm_letters_roundtrip : ∀ v < 16, v ≠ 0 →
    ∃ codes, setPerms [] (permString v) = some codes ∧ codes.isEmpty = false ∧
      codes.flatMap (fun p => if p == 1 then [114] else if p == 2 then [119] else if p == 3 then [120] else if p == 4 then [97] else []) = permString v := by
  decide +kernel

/-- Second clause of C07 for the watch form. If ToCommandLine recognises a rule that Build accepted
as a file watch (`asFileWatch`), and the path still is what it was when the rule was built (a
directory exactly if the rule's first field is `dir`: the `-w` form re-derives the kind by stat),
and the key is not padded with white space, then (1) the text is `-w path -p perm [-k key]`,
(2) its tokens are accepted by flags.Parse as a watch with that path, those permissions and that
key, and (3) Build on it yields byte-identical wire data. -/
theorem C07_roundtrip_watch (env : Env) (rule : Rule) (r : RuleData)
    (hr : ruleDataOf env rule = some r) (path perm key : Bytes)
    (hw : asFileWatch r = some (path, perm, key))
    (hfs : env.isDir = (r.fields.head? == some LA.Gen.RuleTables.dirField))
    (hkey : trimSpace key = key) :
    cmdLineOf r = some (joinWith [32] ([ofString "-w", path, ofString "-p", perm] ++ (if key.isEmpty then [] else [ofString "-k", key]))) ∧
    ∃ rule' r', parseArgs (watchTokens path perm key) = some rule' ∧ ruleDataOf env rule' = some r' ∧ toWire r' = toWire r := by
  obtain ⟨hall, hfl, hac, f0, v0, v1, hf0, hhead, hclean, hv1, hv1lt, rfl, hshape⟩ := asFileWatch_some hw
  -- both shapes at once: `keys` is what `-k` leaves in the parsed watch
  obtain ⟨keys, hkeys, hk, h44, v2, ht, hs⟩ : ∃ keys, (if key.isEmpty then [] else [key]) = keys ∧ (keys = [] ∨ keys = [key]) ∧
      (44 : Nat) ∉ key ∧ ∃ v2, r.trips = (f0, v0, eqOp) :: (LA.Gen.RuleTables.permField, v1, eqOp) ::
        keys.map (fun _ => (LA.Gen.RuleTables.keyField, v2, eqOp)) ∧ r.strings = path :: keys := by
    rcases hshape with ⟨rfl, ht, hs⟩ | ⟨hkne, hk44, v2, ht, hs⟩
    · exact ⟨[], rfl, .inl rfl, List.not_mem_nil, 0, ht, hs⟩
    · exact ⟨[key], by rw [List.isEmpty_eq_false_iff.mpr hkne]; rfl, .inr rfl, hk44, v2, ht, hs⟩
  obtain ⟨codes, hcodes, hcne, hletters⟩ := perm_letters_roundtrip v1 hv1lt hv1
  have hf0S : stringFields.contains f0 = true := by rcases hf0 with rfl | rfl <;> decide +kernel
  have hpermS : stringFields.contains LA.Gen.RuleTables.permField = false := by decide +kernel
  refine ⟨?_, ?_⟩
  · have hl : getList r.flags = some (ofString "exit") := by rw [hfl]; decide +kernel
    have ha : getAction r.action = some (ofString "always") := by rw [hac]; decide +kernel
    simp only [cmdLineOf, hl, ha, hw]
  -- the tokens are read as the watch of `path` with the permission codes and the key
  have hsplit : splitList key = [key] := by
    have hsb : splitByte 44 key = [key] := by simpa using splitByte_append 44 key [] [] [] h44 rfl
    simp only [splitList, hsb, List.map_cons, List.map_nil, hkey]
  have hparse := parseArgs_watchTokens path (permString v1) key codes hcodes hsplit
  rw [hkeys] at hparse
  -- Build on that watch adds path= or dir= (by stat), perm=, then key=; the strings pass because Build took them before
  have hsa := built_ruleDataOf hr
  rw [hfl, ht, hs] at hsa
  obtain ⟨hv0, hok0, hrest⟩ := hsa.of_str hf0S
  cases hv0
  have heq : lookupB LA.Gen.RuleTables.operatorsTable [61] = some eqOp := by decide +kernel
  have hkind : lookupB LA.Gen.RuleTables.fieldsTable (if env.isDir then ofString "dir" else ofString "path") = some f0 := by
    have hfield : r.fields.head? = some f0 := by rw [RuleData.fields, ht]; rfl
    rw [hfs, hfield]
    rcases hf0 with rfl | rfl <;> decide +kernel
  have hexP : ∀ f, ((LA.Gen.RuleTables.exitFilter == LA.Gen.RuleTables.excludeFilter) && !(excludeOkFields.contains f)) = false :=
    fun f => by rw [show (LA.Gen.RuleTables.exitFilter == LA.Gen.RuleTables.excludeFilter) = false by decide]; rfl
  let r0 : RuleData := { flags := LA.Gen.RuleTables.exitFilter, action := LA.Gen.RuleTables.alwaysAction, allSyscalls := true }
  have step0 := addFilter_of_value (r := r0) heq hkind (hexP f0) ((filterValue_flags env _ _ rfl _ _ _).trans hok0.1)
  have hfv1 : filterValue env { r0 with trips := [(f0, path.length, eqOp)], strings := [path] } LA.Gen.RuleTables.permField eqOp
      (permString v1) = some (v1, none, none) := by
    have c : (LA.Gen.RuleTables.permField == LA.Gen.RuleTables.archField) = false ∧
        numGuard LA.Gen.RuleTables.exitFilter LA.Gen.RuleTables.permField eqOp = true := by decide +kernel
    have hnv : numValue env LA.Gen.RuleTables.permField (permString v1) = some v1 := C07_perm_print_parse v1 hv1lt
    rw [filterValue_eq]
    simp only [r0, hpermS, c.1, c.2, Bool.false_eq_true, if_false, if_true, hnv, Option.map_some]
  have step1 := addFilter_of_value heq (show lookupB LA.Gen.RuleTables.fieldsTable (ofString "perm") = some LA.Gen.RuleTables.permField by
    decide +kernel) (hexP _) hfv1
  simp only [r0, List.nil_append, List.cons_append, Option.toList_some, Option.toList_none, Option.getD_none, List.append_nil] at step0 step1
  let r2 : RuleData := { r0 with trips := [(f0, path.length, eqOp), (LA.Gen.RuleTables.permField, v1, eqOp)], strings := [path] }
  have hbuild : ruleDataOf env (.watch path codes keys) = addKeys env r2 keys := by
    simp only [ruleDataOf, addFileWatch, hclean, hhead, bne_self_eq_false, Bool.false_eq_true, if_false, hcne, hletters, step0,
      Option.bind_some, step1]
    rfl
  refine ⟨_, { r2 with trips := r2.trips ++ keys.map fun _ => (LA.Gen.RuleTables.keyField, v2, eqOp), strings := path :: keys },
    hparse, hbuild.trans ?_, toWire_congr_all _ _ hfl.symm hac.symm ht.symm hs.symm rfl hall⟩
  rcases hk with rfl | rfl
  · rfl
  · have hkeyS : stringFields.contains LA.Gen.RuleTables.keyField = true := by decide +kernel
    obtain ⟨hv2, hok2, _⟩ := (hrest.of_num hpermS).of_str hkeyS
    cases hv2
    have step2 := addFilter_of_value (r := r2) heq
      (show lookupB LA.Gen.RuleTables.fieldsTable (ofString "key") = some LA.Gen.RuleTables.keyField by decide +kernel) (hexP _)
      ((filterValue_flags env _ _ rfl _ _ _).trans hok2.1)
    simp only [addKeys, List.isEmpty_cons, Bool.false_eq_true, if_false, joinWith, step2]
    rfl

/-- non-vacuity of `C07_roundtrip_watch`: what `-w /etc/passwd -p wa -k k` builds is recognised as a
watch, and the hypotheses about the filesystem and the key hold. -/
example : ((ruleDataOf ⟨false, [], []⟩ (.watch (ofString "/etc/passwd") [2, 4] [ofString "k"])).map (fun r =>
      (asFileWatch r == some (ofString "/etc/passwd", ofString "wa", ofString "k")) &&
      ((false : Bool) == (r.fields.head? == some LA.Gen.RuleTables.dirField)) &&
      (trimSpace (ofString "k") == ofString "k"))) = some true := by
  rw [ofString_ofList]
  decide +kernel

theorem filterOps_eq : filterOps = [[60, 61], [62, 61], [38, 61], [61], [33, 61], [60], [62], [38]] := by decide

/-- leftmost-first choice among the eight operators: after an operator, a value that does not start with '='
leaves no other operator to be found first. -/
theorem find_filterOp (op : Bytes) (c : Nat) (tl : Bytes) (hop : op ∈ filterOps) (hc : c ≠ 61) :
    filterOps.find? (fun o => hasPrefix o (op ++ c :: tl) && !((op ++ c :: tl).drop o.length).isEmpty) = some op := by
  have hc'' : ((61 : Nat) == c) = false := beq_false_of_ne (Ne.symm hc)
  rw [filterOps_eq] at hop ⊢
  simp only [List.mem_cons, List.mem_nil_iff, or_false] at hop
  rcases hop with rfl | rfl | rfl | rfl | rfl | rfl | rfl | rfl <;>
    simp only [List.find?_cons, hasPrefix, List.isPrefixOf, List.cons_append, List.nil_append, hc'', beq_self_eq_true,
      Bool.and_true, Bool.false_and, Bool.and_false, List.length_cons, List.length_nil, List.drop_succ_cons, List.drop_zero,
      List.isEmpty_cons, Bool.not_false, Nat.reduceBEq, Nat.reduceAdd]

/-- a printed `-F` token `lhs ++ op ++ rhs` — field name of word characters, one of the eight
operators, a value that is not empty and does not start with '=' — is split by the -F expression
into exactly those three parts (the value may contain anything after its first byte). -/
theorem C07_filter_token_reparse (lhs op : Bytes) (c : Nat) (tl : Bytes)
    (hl : lhs ≠ []) (hw : ∀ b ∈ lhs, isReWord b = true) (hop : op ∈ filterOps) (hc : c ≠ 61) :
    matchFilter (lhs ++ op ++ c :: tl) = some (lhs, op, c :: tl) := by
  -- every operator starts with a byte that is neither a word character nor white space
  have cert : filterOps.all (fun o => o.head?.any (fun b => !isReWord b && !isReSpace b)) = true := by decide
  obtain ⟨o, otl, rfl, ho⟩ := head_of_any (List.all_eq_true.mp cert op hop)
  obtain ⟨ho1, ho2⟩ : isReWord o = false ∧ isReSpace o = false := by simpa using ho
  have e0 : lhs ++ (o :: otl) ++ c :: tl = lhs ++ ((o :: otl) ++ c :: tl) := List.append_assoc _ _ _
  have hne : lhs.isEmpty = false := List.isEmpty_eq_false_iff.mpr hl
  have hdw : ((o :: otl) ++ c :: tl).dropWhile isReSpace = (o :: otl) ++ c :: tl :=
    dropWhile_of_head fun b hb => Option.some.inj hb ▸ ho2
  have htw : (lhs ++ ((o :: otl) ++ c :: tl)).takeWhile isReWord = lhs := takeWhile_append_stop lhs _ hw (Or.inr ⟨o, otl ++ c :: tl, rfl, ho1⟩)
  unfold matchFilter
  simp only [e0, htw, hne, Bool.false_eq_true, if_false, List.drop_left, hdw, find_filterOp _ c tl hop hc]

theorem addFilter_names {f opc : Nat} {lhs opS : Bytes}
    (hlhs : revLookup LA.Gen.RuleTables.fieldsTable f = some lhs)
    (hops : revLookup LA.Gen.RuleTables.operatorsTable opc = some opS) {env : Env} {r : RuleData} {rhs : Bytes}
    {v : Nat} {s a : Option Bytes}
    (hex : (r.flags == LA.Gen.RuleTables.excludeFilter && !(excludeOkFields.contains f)) = false)
    (hv : filterValue env r f opc rhs = some (v, s, a)) :
    addFilter env r lhs opS rhs =
      some { r with trips := r.trips ++ [(f, v, opc)], strings := r.strings ++ s.toList, arch := a.getD r.arch } :=
  addFilter_of_value (opName_code hops) (fieldName_code hlhs) hex hv

theorem names_wellformed {f opc : Nat} {lhs opS : Bytes}
    (hlhs : revLookup LA.Gen.RuleTables.fieldsTable f = some lhs)
    (hops : revLookup LA.Gen.RuleTables.operatorsTable opc = some opS) :
    lhs ≠ [] ∧ (∀ b ∈ lhs, isReWord b = true) ∧ opS ∈ filterOps := by
  have names_ok : ∀ p ∈ LA.Gen.RuleTables.fieldsTable, p.1 ≠ [] ∧ ∀ b ∈ p.1, isReWord b = true := by decide +kernel
  have ops_ok : ∀ p ∈ LA.Gen.RuleTables.operatorsTable, p.1 ∈ filterOps := by decide +kernel
  exact ⟨(names_ok _ (revLookup_mem hlhs)).1, (names_ok _ (revLookup_mem hlhs)).2, ops_ok _ (revLookup_mem hops)⟩

/-- `hperm`: the empty permission set is printed as nothing. -/
theorem fieldRhs_head {env : Env} {f v : Nat} {rhs : Bytes} (h : numValue env f rhs = some v)
    (hperm : f = LA.Gen.RuleTables.permField → v ≠ 0) : ∃ c tl, fieldRhs f v = c :: tl ∧ c ≠ 61 := by
  have hdec : ∀ n, ∃ c tl, dec n = c :: tl ∧ c ≠ 61 := by
    intro n
    obtain ⟨d, tl, hd, h1, h2⟩ := dec_cons_digit n
    exact ⟨d, tl, hd, by omega⟩
  rcases numField_cases env f with ⟨-, hr⟩ | ⟨-, hr⟩ | ⟨-, hr⟩ | ⟨hf, hn, hr⟩ | ⟨hr, -⟩ <;> rw [hr]
  · by_cases h3 : (v == 4294967295) = true
    · rw [if_pos h3]; exact ⟨45, [49], rfl, by decide⟩
    · rw [if_neg h3]; exact hdec _
  · -- an errno name or a negative number after '-', or a decimal
    unfold exitString
    simp only
    generalize (if v ≥ 2147483648 then (v : Int) - 4294967296 else (v : Int)) = code
    cases (if code ≤ 0 then Tables.errnoName (-code).toNat else none) with
    | some name => exact ⟨45, _, rfl, by decide⟩
    | none =>
      simp only
      unfold decInt
      by_cases hn : code < 0
      · rw [if_pos hn]; exact ⟨45, _, rfl, by decide⟩
      · rw [if_neg hn]; exact hdec _
  · by_cases h5 : v ≤ 65535
    · rw [if_pos h5]
      obtain ⟨d, tl, hd, h1, h2⟩ := typeName_head v
      exact ⟨d, tl, hd, by omega⟩
    · rw [if_neg h5]; exact hdec _
  · -- the value word of a perm filter comes from getPerm
    rw [hn] at h
    have cert : (List.range 16).all (fun bits => bits == 0 || (permString bits).head?.any (· != 61)) = true := by decide +kernel
    have := List.all_eq_true.mp cert v (List.mem_range.mpr (getPerm_lt16 h))
    rw [beq_false_of_ne (hperm hf), Bool.false_or] at this
    obtain ⟨c, tl, hps, hc⟩ := head_of_any this
    exact ⟨c, tl, hps, by simpa using hc⟩
  · exact hdec v

/-- Per filter, the text half of the round trip: take any (field, value, operator) triple that
Build computed for a numeric filter. The token ToCommandLine prints for it
(`name ++ operator ++ printed value`) is split by the -F expression into the same three parts, the
names look up the same field and operator codes, and addFilter on those parts — on any rule data
under the same list — appends exactly the same triple. -/
theorem C07_filter_reparse (env : Env) (he : EnvOk env) (r : RuleData) (f v opc : Nat) (lhs opS rhs0 : Bytes)
    (a : Option Bytes)
    (hlhs : revLookup LA.Gen.RuleTables.fieldsTable f = some lhs)
    (hops : revLookup LA.Gen.RuleTables.operatorsTable opc = some opS)
    (hs : stringFields.contains f = false) (harch : (f == LA.Gen.RuleTables.archField) = false)
    (hbuilt : filterValue env r f opc rhs0 = some (v, none, a))
    (hexcl : (r.flags == LA.Gen.RuleTables.excludeFilter && !(excludeOkFields.contains f)) = false)
    (hperm : f = LA.Gen.RuleTables.permField → v ≠ 0) :
    matchFilter (lhs ++ opS ++ fieldRhs f v) = some (lhs, opS, fieldRhs f v) ∧
    addFilter env r lhs opS (fieldRhs f v) = some { r with trips := r.trips ++ [(f, v, opc)] } := by
  obtain ⟨hl0, hlw, hop_mem⟩ := names_wellformed hlhs hops
  obtain ⟨c, tl, hrhs, hc⟩ := fieldRhs_head (filterValue_num hs harch hbuilt).2 hperm
  refine ⟨?_, ?_⟩
  · rw [hrhs]; exact C07_filter_token_reparse lhs opS c tl hl0 hlw hop_mem hc
  · rw [addFilter_names hlhs hops hexcl (C07_value_reparse env he r f opc rhs0 v a hs harch hbuilt)]
    simp only [Option.toList_none, List.append_nil, Option.getD_none]

/-- String-valued filters and keys are printed verbatim (`name ++ operator ++ string`), so for
them the text half is: the token splits into the same three parts (when the string does not start
with '='), the names look up the same codes, and therefore addFilter on those parts does exactly
what it did on the original filter — same triple (value = length) and same string appended. -/
theorem C07_string_filter_reparse (env : Env) (r r' : RuleData) (f opc : Nat) (lhs0 op0 lhs opS : Bytes)
    (c : Nat) (tl : Bytes)
    (hlhs : revLookup LA.Gen.RuleTables.fieldsTable f = some lhs)
    (hops : revLookup LA.Gen.RuleTables.operatorsTable opc = some opS)
    (h0f : lookupB LA.Gen.RuleTables.fieldsTable lhs0 = some f)
    (h0o : lookupB LA.Gen.RuleTables.operatorsTable op0 = some opc)
    (hbuilt : addFilter env r lhs0 op0 (c :: tl) = some r') (hc : c ≠ 61) :
    matchFilter (lhs ++ opS ++ c :: tl) = some (lhs, opS, c :: tl) ∧
    addFilter env r lhs opS (c :: tl) = some r' := by
  obtain ⟨hl0, hlw, hop_mem⟩ := names_wellformed hlhs hops
  refine ⟨C07_filter_token_reparse lhs opS c tl hl0 hlw hop_mem hc, ?_⟩
  -- addFilter looks at the two names only through their codes
  unfold addFilter at hbuilt ⊢
  simp only [h0f, h0o] at hbuilt
  simp only [fieldName_code hlhs, opName_code hops]
  exact hbuilt

/-- the two field names printed for an inter-field comparison code: those of the first table entry with that code,
smaller field code first. -/
def CmpNames (v : Nat) (an bn : Bytes) : Prop :=
  ∃ e, LA.Gen.RuleTables.comparisonsTable.find? (fun e => e.2.2 == v) = some e ∧
    revLookup LA.Gen.RuleTables.fieldsTable (min e.1 e.2.1) = some an ∧
    revLookup LA.Gen.RuleTables.fieldsTable (max e.1 e.2.1) = some bn

theorem cmp_table_fact :
    LA.Gen.RuleTables.comparisonsTable.all (fun e =>
      match revLookup LA.Gen.RuleTables.fieldsTable (min e.1 e.2.1), revLookup LA.Gen.RuleTables.fieldsTable (max e.1 e.2.1) with
      | some an, some bn =>
        match lookupB LA.Gen.RuleTables.fieldsTable an, lookupB LA.Gen.RuleTables.fieldsTable bn with
        | some lf, some rf =>
          LA.Gen.RuleTables.comparisonsTable.any (fun e => e.1 == lf) && (lookupComparison lf rf == some e.2.2) &&
          !an.isEmpty && an.all isReWord && !bn.isEmpty && bn.all isReWord
        | _, _ => false
      | _, _ => true) = true := by
  decide +kernel

theorem cmpNames_facts {v : Nat} {an bn : Bytes} (hn : CmpNames v an bn) :
    ∃ lf rf, lookupB LA.Gen.RuleTables.fieldsTable an = some lf ∧ lookupB LA.Gen.RuleTables.fieldsTable bn = some rf ∧
      LA.Gen.RuleTables.comparisonsTable.any (fun e => e.1 == lf) = true ∧ lookupComparison lf rf = some v ∧
      an ≠ [] ∧ (∀ b ∈ an, isReWord b = true) ∧ bn ≠ [] ∧ (∀ b ∈ bn, isReWord b = true) := by
  obtain ⟨e, hfd, h1, h2⟩ := hn
  have tf := List.all_eq_true.mp cmp_table_fact e (List.mem_of_find?_eq_some hfd)
  have hev : e.2.2 = v := by simpa using List.find?_some hfd
  rw [h1, h2, hev] at tf
  simp only at tf
  split at tf
  · rename_i lf rf h1 h2
    simp only [Bool.and_eq_true, Bool.not_eq_true', List.all_eq_true, beq_iff_eq] at tf
    obtain ⟨⟨⟨⟨⟨hany, hlc⟩, a0⟩, a1⟩, b0⟩, b1⟩ := tf
    exact ⟨lf, rf, h1, h2, hany, hlc, List.isEmpty_eq_false_iff.mp a0, a1, List.isEmpty_eq_false_iff.mp b0, b1⟩
  · cases tf

theorem comparison_token_reparse (an bn opS : Bytes) (ha0 : an ≠ []) (ha : ∀ b ∈ an, isReWord b = true)
    (hb0 : bn ≠ []) (hb : ∀ b ∈ bn, isReWord b = true) (hop : opS = [61] ∨ opS = [33, 61]) :
    matchComparison (an ++ opS ++ bn) = some (an, opS, bn) := by
  have h61 : isReWord 61 = false := by decide
  have h33 : isReWord 33 = false := by decide
  have hball : bn.all isReWord = true := List.all_eq_true.mpr hb
  have hbe : bn.isEmpty = false := List.isEmpty_eq_false_iff.mpr hb0
  have hae : an.isEmpty = false := List.isEmpty_eq_false_iff.mpr ha0
  rcases hop with rfl | rfl
  · have e : an ++ [61] ++ bn = an ++ 61 :: bn := by simp
    rw [e]
    unfold matchComparison
    simp only [takeWhile_append_stop an _ ha (Or.inr ⟨61, bn, rfl, h61⟩), hae, Bool.false_eq_true, if_false, List.drop_left]
    simp [hbe, hball, show isReSpace 61 = false by decide]
  · have e : an ++ [33, 61] ++ bn = an ++ 33 :: 61 :: bn := by simp
    rw [e]
    unfold matchComparison
    simp only [takeWhile_append_stop an _ ha (Or.inr ⟨33, 61 :: bn, rfl, h33⟩), hae, Bool.false_eq_true, if_false, List.drop_left]
    simp [hbe, hball, show isReSpace 33 = false by decide]

/-- `ps` are the arguments ToCommandLine prints for the triples `ts` (with their strings `ss`) of a rule under list `fl`, one per
triple, and flags.Parse and Build read them back: each is split by its own expression into its parts, and re-adding them one
after the other appends the triples and strings again. `plain`: without comparisons they are the `-F` arguments of `partsMixed`. -/
structure Printed (env : Env) (fl : Nat) (ts : List (Nat × Nat × Nat)) (ss : List Bytes) (ps : List GPart) : Prop where
  length : ps.length = ts.length
  print : printFields (ts.map (·.1)) (ts.map (·.2.1)) (ts.map (·.2.2)) ss = some (ps.map gPrint)
  split : ∀ p ∈ ps, GMatch p
  rebuild : ∀ r0 : RuleData, r0.flags = fl →
    (ps.map gFilter).foldl (fun (acc : Option RuleData) f =>
        acc.bind fun r =>
          if (f.typ == 2) = true then addFilter env r f.lhs f.op f.rhs
          else if (f.typ == 1) = true then addInterField r f.lhs f.op f.rhs
          else some r) (some r0) = some { r0 with trips := r0.trips ++ ts, strings := r0.strings ++ ss }
  plain : (∀ t ∈ ts, (t.1 == LA.Gen.RuleTables.fieldCompare) = false) →
    ∃ names : List (Bytes × Bytes), names.length = ts.length ∧
      ps = (partsMixed ts names (rhsList ts ss)).map (fun p => ((70, p) : GPart))

theorem Printed.nil {env : Env} {fl : Nat} : Printed env fl [] [] [] :=
  ⟨rfl, rfl, nofun, fun _ _ => by simp, fun _ => ⟨[], rfl, rfl⟩⟩

/-- a `-F` argument in front: the value text `rhs` is the string of a string-valued field, else what `fieldRhs` prints, and Build
computes the triple's value word from it. -/
theorem Printed.consF {env : Env} {fl : Nat} {t : Nat × Nat × Nat} {s : Option Bytes} {lhs opS rhs : Bytes}
    {ts : List (Nat × Nat × Nat)} {ss : List Bytes} {ps : List GPart} (h : Printed env fl ts ss ps) (hp : PTrip t lhs opS)
    (hpr : (stringFields.contains t.1 = true ∧ s = some rhs) ∨
      (stringFields.contains t.1 = false ∧ s = none ∧ rhs = fieldRhs t.1 t.2.1))
    (hrhs : ∃ c tl, rhs = c :: tl ∧ c ≠ 61)
    (hv : filterValue env { flags := fl } t.1 t.2.2 rhs = some (t.2.1, s, none))
    (hex : (fl == LA.Gen.RuleTables.excludeFilter && !(excludeOkFields.contains t.1)) = false) :
    Printed env fl (t :: ts) (s.toList ++ ss) ((70, lhs, opS, rhs) :: ps) where
  length := by simp [h.length]
  print := by
    rcases hpr with ⟨hs, rfl⟩ | ⟨hs, rfl, rfl⟩ <;>
      simp only [List.map_cons, printFields, hp.op, hp.notArch, Bool.false_eq_true, if_false, hp.notCmp, hp.lhs, hs, if_true,
        Option.toList_some, Option.toList_none, List.cons_append, List.nil_append, h.print, Option.map_some, gPrint, Nat.reduceBEq]
  split := by
    obtain ⟨c, tl, rfl, hc⟩ := hrhs
    obtain ⟨f1, f2, f3⟩ := names_wellformed hp.lhs hp.op
    exact List.forall_mem_cons.mpr ⟨Or.inl ⟨rfl, C07_filter_token_reparse lhs opS c tl f1 f2 f3 hc⟩, h.split⟩
  rebuild := by
    intro r0 hfl
    subst hfl
    have step := addFilter_names hp.lhs hp.op hex ((filterValue_flags env r0 { flags := r0.flags } rfl _ _ _).trans hv)
    simp only [List.map_cons, List.foldl_cons, Option.bind_some, gFilter, Nat.reduceBEq, Bool.false_eq_true, if_false, if_true, step,
      Option.getD_none]
    rw [h.rebuild { r0 with trips := r0.trips ++ [(t.1, t.2.1, t.2.2)], strings := r0.strings ++ s.toList } rfl]
    simp [List.append_assoc]
  plain := by
    intro hc
    obtain ⟨names, hl, rfl⟩ := h.plain fun x hx => hc x (List.mem_cons_of_mem _ hx)
    refine ⟨(lhs, opS) :: names, by simp [hl], ?_⟩
    rcases hpr with ⟨hs, rfl⟩ | ⟨hs, rfl, rfl⟩ <;>
      simp only [rhsList, hs, Bool.false_eq_true, ↓reduceIte, Option.toList_some, Option.toList_none, List.cons_append, List.nil_append,
        partsMixed, List.map_cons]

/-- a `-C` argument in front: the two names stand for the comparison code the way `addInterField` looks it up. -/
theorem Printed.consC {env : Env} {fl : Nat} {t : Nat × Nat × Nat} {an bn opS : Bytes}
    {ts : List (Nat × Nat × Nat)} {ss : List Bytes} {ps : List GPart} (h : Printed env fl ts ss ps)
    (hc : t.1 = LA.Gen.RuleTables.fieldCompare) (hnames : CmpNames t.2.1 an bn)
    (hop : revLookup LA.Gen.RuleTables.operatorsTable t.2.2 = some opS) (hops : t.2.2 = eqOp ∨ t.2.2 = neOp) :
    Printed env fl (t :: ts) ss ((67, an, opS, bn) :: ps) where
  length := by simp [h.length]
  print := by
    obtain ⟨e, hfd, h1, h2⟩ := hnames
    simp only [List.map_cons, printFields, hop, hc, fieldCompare_ne_arch, Bool.false_eq_true, if_false, beq_self_eq_true, if_true, hfd, h1, h2,
      h.print, Option.map_some, gPrint]
  split := by
    have eqn : revLookup LA.Gen.RuleTables.operatorsTable eqOp = some [61] := by decide +kernel
    have nen : revLookup LA.Gen.RuleTables.operatorsTable neOp = some [33, 61] := by decide +kernel
    obtain ⟨_, _, _, _, _, _, a0, a1, b0, b1⟩ := cmpNames_facts hnames
    have hopS : opS = [61] ∨ opS = [33, 61] := by
      rcases hops with ho | ho
      · rw [ho, eqn] at hop; exact Or.inl (Option.some.inj hop).symm
      · rw [ho, nen] at hop; exact Or.inr (Option.some.inj hop).symm
    exact List.forall_mem_cons.mpr ⟨Or.inr ⟨rfl, comparison_token_reparse an bn opS a0 a1 b0 b1 hopS⟩, h.split⟩
  rebuild := by
    intro r0 hfl
    obtain ⟨lf, rf, h1, h2, hany, hlc, _⟩ := cmpNames_facts hnames
    have hopc : (t.2.2 != eqOp && t.2.2 != neOp) = false := by
      rcases hops with ho' | ho' <;> simp [ho']
    have step : addInterField r0 an opS bn = some { r0 with trips := r0.trips ++ [t] } := by
      unfold addInterField
      simp only [opName_code hop, hopc, Bool.false_eq_true, if_false, h1, h2, hany, Bool.not_true, hlc]
      have : t = (LA.Gen.RuleTables.fieldCompare, t.2.1, t.2.2) := by rw [← hc]
      rw [← this]
    simp only [List.map_cons, List.foldl_cons, Option.bind_some, gFilter, Nat.reduceBEq, Bool.false_eq_true, if_false, if_true, step]
    rw [h.rebuild { r0 with trips := r0.trips ++ [t] } hfl]
    simp [List.append_assoc]
  plain := by
    intro hall
    have := hall t List.mem_cons_self
    rw [hc] at this
    simp at this

theorem tripOk_names {t : Nat × Nat × Nat} (h : tripOk t = true) (ha : (t.1 == LA.Gen.RuleTables.archField) = false)
    (hc : (t.1 == LA.Gen.RuleTables.fieldCompare) = false) : ∃ lhs opS, PTrip t lhs opS := by
  unfold tripOk at h
  simp only [Bool.and_eq_true, ha, hc, Bool.false_eq_true, if_false, Option.isSome_iff_exists] at h
  obtain ⟨⟨opS, ho⟩, lhs, hl⟩ := h
  exact ⟨lhs, opS, ha, hc, hl, ho⟩

theorem tripOk_cmp {t : Nat × Nat × Nat} (h : tripOk t = true) (hc : t.1 = LA.Gen.RuleTables.fieldCompare) :
    ∃ an bn opS, CmpNames t.2.1 an bn ∧ revLookup LA.Gen.RuleTables.operatorsTable t.2.2 = some opS := by
  unfold tripOk at h
  simp only [Bool.and_eq_true, hc, fieldCompare_ne_arch, Bool.false_eq_true, if_false, beq_self_eq_true, if_true, Option.isSome_iff_exists] at h
  obtain ⟨⟨opS, ho⟩, h2⟩ := h
  split at h2
  · cases h2
  · rename_i e hfd
    simp only [Bool.and_eq_true, Option.isSome_iff_exists] at h2
    obtain ⟨⟨an, h1⟩, bn, h2⟩ := h2
    exact ⟨an, bn, opS, ⟨e, hfd, h1, h2⟩, ho⟩

/-- the reasons of `Built` are what the two steps of `Printed` ask for; the names come from `tripOk`. -/
theorem printed_exists {env : Env} (he : EnvOk env) {fl : Nat} {ts : List (Nat × Nat × Nat)} {ss : List Bytes}
    (hb : Built env fl ts ss)
    (hok : ∀ t ∈ ts, tripOk t = true)
    (harch : ∀ t ∈ ts, (t.1 == LA.Gen.RuleTables.archField) = false)
    (hperm : ∀ t ∈ ts, t.1 = LA.Gen.RuleTables.permField → t.2.1 ≠ 0)
    (hstr : ∀ s ∈ ss, ∃ c tl, s = c :: tl ∧ c ≠ 61) :
    ∃ ps, Printed env fl ts ss ps := by
  induction hb with
  | nil => exact ⟨[], .nil⟩
  | @str t s ts ss hs hv hsok _ ih =>
    rw [List.forall_mem_cons] at hok harch hperm hstr
    obtain ⟨ps, hps⟩ := ih hok.2 harch.2 hperm.2 hstr.2
    have hc : (t.1 == LA.Gen.RuleTables.fieldCompare) = false := beq_eq_false_iff_ne.mpr fun hh => by
      rw [hh, fieldCompare_not_string] at hs
      cases hs
    obtain ⟨lhs, opS, hp⟩ := tripOk_names hok.1 harch.1 hc
    exact ⟨_, hps.consF (s := some s) hp (.inl ⟨hs, rfl⟩) hstr.1 (hv ▸ hsok.1) hsok.2⟩
  | @num t ts ss hs hc hj _ ih =>
    rw [List.forall_mem_cons] at hok harch hperm
    obtain ⟨ps, hps⟩ := ih hok.2 harch.2 hperm.2 hstr
    obtain ⟨lhs, opS, hp⟩ := tripOk_names hok.1 harch.1 hc
    obtain ⟨⟨rhs0, a, hb⟩, hex⟩ := hj
    -- the text printed for the value word is read back to the same word
    exact ⟨_, hps.consF (s := none) hp (.inr ⟨hs, rfl, rfl⟩) (fieldRhs_head (filterValue_num hs hp.notArch hb).2 hperm.1)
      (C07_value_reparse env he _ t.1 t.2.2 rhs0 t.2.1 a hs hp.notArch hb) hex⟩
  | @cmp t ts ss hc hops _ _ ih =>
    rw [List.forall_mem_cons] at hok harch hperm
    obtain ⟨ps, hps⟩ := ih hok.2 harch.2 hperm.2 hstr
    obtain ⟨an, bn, opS, hn, hop⟩ := tripOk_cmp hok.1 hc
    exact ⟨_, hps.consC hc hn hop hops⟩

/-- what ToCommandLine prints for a syscall number when the rule has no arch filter -/
def sysText (n : Nat) : Bytes :=
  match Tables.syscallName runtimeArch n with
  | some nm => nm
  | none => dec n

/-- 44 is the comma; a first byte from 58 up is neither digit nor sign, so `atoiGo` reports a syntax error on the name. -/
theorem x86_names_words :
    LA.Gen.Syscalls_x86_64.table.all (fun p =>
      p.2.all (fun b => decide (b < 128) && !isAsciiSpace b && b != 44) && !(p.2 == ofString "all") &&
      p.2.head?.any (fun c => decide (58 ≤ c))) = true := by
  decide +kernel

theorem sysTable_runtime : Tables.sysTable runtimeArch =
    some (ofString "x86_64", LA.Gen.Syscalls_x86_64.table, LA.Gen.Syscalls_x86_64.nameTree, LA.Gen.Syscalls_x86_64.numTree) := rfl

theorem syscallName_facts {n : Nat} {nm : Bytes} (h : Tables.syscallName runtimeArch n = some nm) :
    atoiGo nm = .syntax ∧ (nm == ofString "all") = false ∧ (∀ b ∈ nm, b < 128 ∧ isAsciiSpace b = false ∧ b ≠ 44) ∧
    Tables.syscallNum runtimeArch nm = some n := by
  obtain ⟨t, ht, hmem⟩ := Tables.syscallName_mem h
  cases sysTable_runtime.symm.trans ht
  have hc := List.all_eq_true.mp x86_names_words _ hmem
  have hnm := List.all_eq_true.mp LA.Gen.Syscalls_x86_64.cert_names _ hmem
  simp only [Bool.and_eq_true, Bool.not_eq_true', List.all_eq_true, decide_eq_true_eq, bne_iff_ne, ne_eq] at hc
  obtain ⟨⟨hall, hne⟩, hhead⟩ := hc
  obtain ⟨c, tl, rfl, hhead⟩ := head_of_any hhead
  refine ⟨atoiGo_word c tl (by simpa using hhead), hne, fun b hb => and_assoc.mp (hall b hb), ?_⟩
  unfold Tables.syscallNum
  rw [sysTable_runtime]
  simp only [beq_iff_eq] at hnm
  simp only [hnm]

theorem addSyscall_sysText (r : RuleData) (n : Nat) (hn : n < 2048) (harch : r.arch = []) (hexp : r.explicitAll = false) :
    addSyscall r (sysText n) = some { r with allSyscalls := false, syscalls := r.syscalls ++ [n] } := by
  unfold sysText
  cases hnm : Tables.syscallName runtimeArch n with
  | some nm =>
    obtain ⟨f1, f2, -, f6⟩ := syscallName_facts hnm
    unfold addSyscall
    simp only [f2, Bool.false_eq_true, if_false, f1, harch, List.isEmpty_nil, if_true, sysTable_runtime, f6, hexp, syscallBits_eq]
    -- what is left is the range test on the number found
    show (if (n : Int) < 0 ∨ (n : Int) ≥ (2048 : Nat) then none else some _) = _
    rw [if_neg (by omega), Int.toNat_natCast]
  | none =>
    unfold addSyscall
    simp only [dec_ne_all n, Bool.false_eq_true, if_false, atoiGo_dec n hn, hexp, syscallBits_eq]
    show (if (n : Int) < 0 ∨ (n : Int) ≥ (2048 : Nat) then none else some _) = _
    rw [if_neg (by omega), Int.toNat_natCast]

theorem sysText_clean (n : Nat) : ∀ b ∈ sysText n, b < 128 ∧ isAsciiSpace b = false ∧ b ≠ 44 := by
  unfold sysText
  cases hnm : Tables.syscallName runtimeArch n with
  | some nm => exact (syscallName_facts hnm).2.2.1
  | none =>
    intro b hb
    have := dec_digits n b hb
    simp only [isDigit, Bool.and_eq_true, decide_eq_true_eq] at this
    -- a digit is none of the six white-space bytes
    refine ⟨by omega, ?_, by omega⟩
    simp only [isAsciiSpace, Bool.or_eq_false_iff, beq_eq_false_iff_ne, ne_eq]
    omega

theorem splitList_join (items : List Bytes) (hne : items ≠ [])
    (h : ∀ it ∈ items, ∀ b ∈ it, b < 128 ∧ isAsciiSpace b = false ∧ b ≠ 44) : splitList (joinWith [44] items) = items := by
  unfold splitList
  rw [splitByte_join 44 items hne (fun it hit hm => (h it hit 44 hm).2.2 rfl)]
  refine (List.map_congr_left fun it hit => ?_).trans (List.map_id _)
  exact trimSpace_of_all it (fun b hb => ⟨(h it hit b hb).1, (h it hit b hb).2.1⟩)

theorem foldl_addSyscall_sysText (ns : List Nat) (hn : ∀ m ∈ ns, m < 2048) (r0 : RuleData)
    (harch : r0.arch = []) (hexp : r0.explicitAll = false) :
    (ns.map sysText).foldl (fun (acc : Option RuleData) s => acc.bind fun r => addSyscall r s) (some r0) =
      some { r0 with allSyscalls := r0.allSyscalls && ns.isEmpty, syscalls := r0.syscalls ++ ns } := by
  induction ns generalizing r0 with
  | nil => simp
  | cons n ns ih =>
    rw [List.forall_mem_cons] at hn
    simp only [List.map_cons, List.foldl_cons, Option.bind_some, addSyscall_sysText r0 n hn.1 harch hexp]
    rw [ih hn.2 { r0 with allSyscalls := false, syscalls := r0.syscalls ++ [n] } harch hexp]
    simp [List.append_assoc]

/-- the tokens of the line ToCommandLine prints for an all-syscalls rule without arch filter -/
def lineTokens (fl : Nat) (l a : Bytes) (ps : List GPart) : List Bytes :=
  [tokA, a ++ [44] ++ l] ++
  (if fl == LA.Gen.RuleTables.exitFilter || fl == LA.Gen.RuleTables.entryFilter then [tokS, ofString "all"] else []) ++
  gTokens ps

/-- stated for every syscall list `sys`: what Build has accumulated from one filter per printed argument before it turns
to the syscalls. -/
theorem fields_rebuild (env : Env) (he : EnvOk env) (rule : Rule) (r : RuleData)
    (hr : ruleDataOf env rule = some r)
    (harch : ∀ t ∈ r.trips, (t.1 == LA.Gen.RuleTables.archField) = false)
    (hperm : ∀ t ∈ r.trips, t.1 = LA.Gen.RuleTables.permField → t.2.1 ≠ 0)
    (hstr : ∀ s ∈ r.strings, ∃ c tl, s = c :: tl ∧ c ≠ 61) :
    ∃ (l a : Bytes) (ps : List GPart), Printed env r.flags r.trips r.strings ps ∧
      getList r.flags = some l ∧ getAction r.action = some a ∧
      ∀ sys : List Bytes, ruleDataOf env (.syscall 3 l a (ps.map gFilter) sys []) =
        sys.foldl (fun (acc : Option RuleData) s => acc.bind fun r => addSyscall r s)
          (some { flags := r.flags, action := r.action, allSyscalls := true, trips := r.trips, strings := r.strings }) := by
  have hp := printInv_ruleDataOf he hr
  obtain ⟨l, hl⟩ := Option.isSome_iff_exists.mp hp.list
  obtain ⟨a, ha⟩ := Option.isSome_iff_exists.mp hp.action
  obtain ⟨ps, hps⟩ := printed_exists he (built_ruleDataOf hr) hp.trips harch hperm hstr
  have hfold := hps.rebuild { flags := r.flags, action := r.action, allSyscalls := true } rfl
  refine ⟨l, a, ps, hps, hl, ha, fun sys => ?_⟩
  simp only [ruleDataOf, setList_getList hl, setAction_getAction ha, hfold]
  simp [addKeys]

/-- the `-S` part of the printed line: "all" on the lists that take syscalls, nothing on the others, or the
syscalls of the rule named for the runtime architecture. -/
def sysPart (r : RuleData) : List Bytes :=
  if r.allSyscalls then
    (if r.flags == LA.Gen.RuleTables.exitFilter || r.flags == LA.Gen.RuleTables.entryFilter then [tokS, ofString "all"] else [])
  else [tokS, joinWith [44] (r.syscalls.map sysText)]

theorem cmdLineOf_no_arch {r : RuleData} {l a : Bytes} {fieldArgs : List Bytes}
    (hl : getList r.flags = some l) (ha : getAction r.action = some a) (hw : asFileWatch r = none)
    (harch : ∀ t ∈ r.trips, (t.1 == LA.Gen.RuleTables.archField) = false)
    (hsys : r.allSyscalls = false → r.syscalls ≠ [])
    (hpf : printFields r.fields r.values r.fieldFlags r.strings = some fieldArgs) :
    cmdLineOf r = some (joinWith [32] ([ofString "-a", a ++ [44] ++ l] ++ sysPart r ++ fieldArgs)) := by
  have hnoarch : lastIndexOf r.fields LA.Gen.RuleTables.archField = none := lastIndexOf_none (by
    intro y hy
    obtain ⟨t, ht, rfl⟩ := List.mem_map.mp hy
    exact harch t ht)
  have hb32 : (([] : Bytes) == ofString "b32") = false := by decide
  have hse : r.allSyscalls = false → r.syscalls.isEmpty = false := fun h => by
    simpa using hsys h
  unfold cmdLineOf sysPart
  cases hall : r.allSyscalls with
  | true =>
    simp only [hl, ha, hw, hnoarch, hpf, if_true, List.append_nil]
    rfl
  | false =>
    simp only [hl, ha, hw, hnoarch, hpf, hb32, hse hall, List.isEmpty_nil, Bool.not_true, Bool.false_and, Bool.false_eq_true, if_false,
      List.append_nil]
    rfl

/-- The second clause of C07 for every rule Build accepts that has no arch filter and is not of the
`-w` shape (no empty permission set, strings non-empty and not starting with '='): ToCommandLine prints
`-a action,list`, the `-S` part, and the arguments `ps` that `Printed` describes, one per triple; flags.Parse
accepts the tokens of that line, and Build on the result gives byte-identical wire data. -/
theorem roundtrip_line (env : Env) (he : EnvOk env) (rule : Rule) (r : RuleData)
    (hr : ruleDataOf env rule = some r)
    (harch : ∀ t ∈ r.trips, (t.1 == LA.Gen.RuleTables.archField) = false)
    (hperm : ∀ t ∈ r.trips, t.1 = LA.Gen.RuleTables.permField → t.2.1 ≠ 0)
    (hstr : ∀ s ∈ r.strings, ∃ c tl, s = c :: tl ∧ c ≠ 61)
    (hw : asFileWatch r = none) :
    ∃ (l a : Bytes) (ps : List GPart), Printed env r.flags r.trips r.strings ps ∧
      getList r.flags = some l ∧ getAction r.action = some a ∧
      cmdLineOf r = some (joinWith [32] ([ofString "-a", a ++ [44] ++ l] ++ sysPart r ++ ps.map gPrint)) ∧
      ∃ rule' r', parseArgs ([tokA, a ++ [44] ++ l] ++ sysPart r ++ gTokens ps) = some rule' ∧
        ruleDataOf env rule' = some r' ∧ r'.trips = r.trips ∧ toWire r' = toWire r := by
  obtain ⟨l, a, ps, hps, hl, ha, hrd⟩ := fields_rebuild env he rule r hr harch hperm hstr
  have hparse := fun sv => parseArgs_line (setAdd_print hl ha) sv ps hps.split
  refine ⟨l, a, ps, hps, hl, ha, ?_, ?_⟩
  · exact cmdLineOf_no_arch hl ha hw harch (fun h => (syscalls_named hr h).2) hps.print
  · cases hall : r.allSyscalls with
    | true =>
      by_cases hexit : (r.flags == LA.Gen.RuleTables.exitFilter || r.flags == LA.Gen.RuleTables.entryFilter) = true
      · -- "-S all" is printed, and read back as the explicit "all"
        have hsplit : splitList (ofString "all") = [ofString "all"] := by decide +kernel
        refine ⟨.syscall 3 l a (ps.map gFilter) (splitList (ofString "all")) [],
          { flags := r.flags, action := r.action, allSyscalls := true, explicitAll := true, trips := r.trips, strings := r.strings },
          ?_, ?_, rfl, toWire_congr_all _ _ rfl rfl rfl rfl rfl hall⟩
        · simp only [sysPart, hall, hexit, if_true]
          exact hparse (some (ofString "all"))
        · rw [hrd, hsplit]
          simp [addSyscall]
      · refine ⟨.syscall 3 l a (ps.map gFilter) [] [],
          { flags := r.flags, action := r.action, allSyscalls := true, trips := r.trips, strings := r.strings },
          ?_, ?_, rfl, toWire_congr_all _ _ rfl rfl rfl rfl rfl hall⟩
        · simp only [sysPart, hall, hexit, if_true]
          exact hparse none
        · rw [hrd]; rfl
    | false =>
      obtain ⟨hexp, hsne⟩ := syscalls_named hr hall
      have hsysfold := foldl_addSyscall_sysText r.syscalls (wordsInv_ruleDataOf he hr).syscalls
        { flags := r.flags, action := r.action, allSyscalls := true, trips := r.trips, strings := r.strings } rfl rfl
      refine ⟨.syscall 3 l a (ps.map gFilter) (r.syscalls.map sysText) [],
        { flags := r.flags, action := r.action, allSyscalls := false, syscalls := r.syscalls, trips := r.trips, strings := r.strings },
        ?_, ?_, rfl, toWire_congr_mask _ _ rfl rfl rfl rfl (by simp only [maskOf, hall])⟩
      · have := hparse (some (joinWith [44] (r.syscalls.map sysText)))
        simp only [splitList_join _ (by simpa using hsne) (List.forall_mem_map.mpr fun n _ => sysText_clean n)] at this
        simp only [sysPart, hall, Bool.false_eq_true, if_false]
        exact this
      · rw [hrd, hsysfold]
        simp [hsne]

/-- Second clause of C07 for every all-syscalls rule without an arch filter: numeric
filters, string-valued filters (keys included) and inter-field comparisons, in any number and
order. For every syscall rule Build accepts that applies to all syscalls, has no arch filter, is
not of the exact shape `-w` produces, has no empty permission set and whose string values are
non-empty and do not begin with '=': (1) ToCommandLine's text is `-a action,list [-S all]` followed
by one `-F name op value` or `-C name op name` element per field, in order; (2) the tokens of that
text are accepted by flags.Parse (each `-F` / `-C` argument is split into the same three parts)
and Build on the result accumulates the same triples and strings in the same order; (3) the wire
data is byte-identical. -/
theorem C07_roundtrip_no_arch (env : Env) (he : EnvOk env) (rule : Rule) (r : RuleData)
    (hr : ruleDataOf env rule = some r)
    (harch : ∀ t ∈ r.trips, (t.1 == LA.Gen.RuleTables.archField) = false)
    (hperm : ∀ t ∈ r.trips, t.1 = LA.Gen.RuleTables.permField → t.2.1 ≠ 0)
    (hstr : ∀ s ∈ r.strings, ∃ c tl, s = c :: tl ∧ c ≠ 61)
    (hw : asFileWatch r = none)
    (hall : r.allSyscalls = true) (hsys : r.syscalls = []) :
    ∃ (l a : Bytes) (ps : List GPart),
      getList r.flags = some l ∧ getAction r.action = some a ∧ ps.length = r.trips.length ∧
      cmdLineOf r = some (joinWith [32] ([ofString "-a", a ++ [44] ++ l] ++
        (if r.flags == LA.Gen.RuleTables.exitFilter || r.flags == LA.Gen.RuleTables.entryFilter then [ofString "-S", ofString "all"] else []) ++
        ps.map gPrint)) ∧
      ∃ rule' r', parseArgs (lineTokens r.flags l a ps) = some rule' ∧
        ruleDataOf env rule' = some r' ∧ r'.trips = r.trips ∧ toWire r' = toWire r := by
  obtain ⟨l, a, ps, hps, h1, h2, h3, h4⟩ := roundtrip_line env he rule r hr harch hperm hstr hw
  simp only [sysPart, hall, if_true] at h3 h4
  exact ⟨l, a, ps, h1, h2, hps.length, h3, h4⟩

/-- non-vacuity of `C07_roundtrip_no_arch`: `-a always,exit -F pid=1 -C auid!=uid -F exe=/bin/ls -k a`
satisfies its hypotheses. -/
example : ((ruleDataOf ⟨false, [], []⟩ (.syscall 3 (ofString "exit") (ofString "always")
    [⟨2, ofString "pid", [61], ofString "1"⟩, ⟨1, ofString "auid", [33, 61], ofString "uid"⟩,
     ⟨2, ofString "exe", [61], ofString "/bin/ls"⟩] [] [ofString "a"])).map (fun r =>
      r.allSyscalls && r.syscalls.isEmpty && decide (r.trips.length = 4) && decide (r.strings.length = 2) &&
      (asFileWatch r).isNone && r.trips.any (fun t => t.1 == LA.Gen.RuleTables.fieldCompare) &&
      r.strings.all (fun s => match s with | c :: _ => c != 61 | [] => false) &&
      r.trips.all (fun t => !(t.1 == LA.Gen.RuleTables.archField) && !(t.1 == LA.Gen.RuleTables.permField)))) = some true := by
  decide +kernel

/-- the tokens of the line ToCommandLine prints for an all-syscalls rule with numeric filters -/
def numericTokens (fl : Nat) (l a : Bytes) (parts : List (Bytes × Bytes × Bytes)) : List Bytes :=
  [tokA, a ++ [44] ++ l] ++
  (if fl == LA.Gen.RuleTables.exitFilter || fl == LA.Gen.RuleTables.entryFilter then [tokS, ofString "all"] else []) ++
  fTokens parts

theorem gTokens_F (parts : List (Bytes × Bytes × Bytes)) :
    gTokens (parts.map (fun p => ((70, p) : GPart))) = fTokens parts := by
  simp [gTokens, fTokens, tokF, List.flatMap_map]

theorem gPrint_F (parts : List (Bytes × Bytes × Bytes)) :
    (parts.map (fun p => ((70, p) : GPart))).map gPrint = parts.map (fun p => ofString "-F " ++ p.1 ++ p.2.1 ++ p.2.2) := by
  simp [gPrint]

/-- Second clause of C07 for the class of all-syscalls rules whose filters are numeric
or string-valued (path, dir, exe, key — including the joined keys of `-k` — and the SELinux
fields), i.e. every syscall rule Build accepts that has no arch filter, no inter-field comparison
and no explicit syscall list, is not of the exact shape `-w` produces, and whose string values are
non-empty and do not begin with '='. For such a rule (1) ToCommandLine's text is
`-a action,list [-S all] -F f1 … -F fn` with one element per filter, numeric values printed by
`fieldRhs` and strings verbatim, (2) the tokens of that text are accepted by flags.Parse, and Build
on the result accumulates the same triples and the same strings in the same order, and (3) the
wire data is byte-identical. (Shell tokenisation is outside the model, as in C14; a string with
white space or quotes would not survive it — KF-C07-backslash is the recorded instance.) -/
theorem C07_roundtrip_filters (env : Env) (he : EnvOk env) (rule : Rule) (r : RuleData)
    (hr : ruleDataOf env rule = some r)
    (hcls : ∀ t ∈ r.trips, (t.1 == LA.Gen.RuleTables.archField) = false ∧ (t.1 == LA.Gen.RuleTables.fieldCompare) = false)
    (hperm : ∀ t ∈ r.trips, t.1 = LA.Gen.RuleTables.permField → t.2.1 ≠ 0)
    (hstr : ∀ s ∈ r.strings, ∃ c tl, s = c :: tl ∧ c ≠ 61)
    (hw : asFileWatch r = none)
    (hall : r.allSyscalls = true) (hsys : r.syscalls = []) :
    ∃ (l a : Bytes) (names : List (Bytes × Bytes)),
      getList r.flags = some l ∧ getAction r.action = some a ∧ names.length = r.trips.length ∧
      cmdLineOf r = some (joinWith [32] ([ofString "-a", a ++ [44] ++ l] ++
        (if r.flags == LA.Gen.RuleTables.exitFilter || r.flags == LA.Gen.RuleTables.entryFilter then [ofString "-S", ofString "all"] else []) ++
        (partsMixed r.trips names (rhsList r.trips r.strings)).map (fun p => ofString "-F " ++ p.1 ++ p.2.1 ++ p.2.2))) ∧
      ∃ rule' r', parseArgs (numericTokens r.flags l a (partsMixed r.trips names (rhsList r.trips r.strings))) = some rule' ∧
        ruleDataOf env rule' = some r' ∧ r'.trips = r.trips ∧ toWire r' = toWire r := by
  obtain ⟨l, a, ps, hps, h1, h2, h3, h4⟩ := roundtrip_line env he rule r hr (fun t ht => (hcls t ht).1) hperm hstr hw
  obtain ⟨names, hlen, rfl⟩ := hps.plain fun t ht => (hcls t ht).2
  simp only [sysPart, hall, if_true, gPrint_F, gTokens_F] at h3 h4
  exact ⟨l, a, names, h1, h2, hlen, h3, h4⟩

/-- non-vacuity of `C07_roundtrip_filters`: `-a always,exit -F pid=1 -F exe=/bin/ls -F key=a\x01b`
(what `-F pid=1 -F exe=/bin/ls -k a -k b` builds) satisfies its hypotheses. -/
example : ((ruleDataOf ⟨false, [], []⟩ (.syscall 3 (ofString "exit") (ofString "always")
    [⟨2, ofString "pid", [61], ofString "1"⟩, ⟨2, ofString "exe", [61], ofString "/bin/ls"⟩] [] [ofString "a", ofString "b"])).map (fun r =>
      r.allSyscalls && r.syscalls.isEmpty && decide (r.trips.length = 3) && decide (r.strings.length = 2) &&
      (asFileWatch r).isNone &&
      r.strings.all (fun s => match s with | c :: _ => c != 61 | [] => false) &&
      r.trips.all (fun t => !(t.1 == LA.Gen.RuleTables.archField) &&
        !(t.1 == LA.Gen.RuleTables.fieldCompare) && !(t.1 == LA.Gen.RuleTables.permField)))) = some true := by
  decide +kernel

/-- Second clause of C07 for a whole class of rules: every syscall rule that Build
accepts, that applies to all syscalls and whose filters are all numeric (no string-valued field
or key, no arch filter, no inter-field comparison, no empty permission set). For such a rule
(1) ToCommandLine's text is `-a action,list [-S all] -F f1 … -F fn` with one element per filter,
(2) the tokens of that text are accepted by flags.Parse, and Build on the result accumulates the
same list, action and (field, value, operator) triples in the same order, and
(3) therefore re-encodes to byte-identical wire data.
(Shell tokenisation of the text into the tokens is outside the model, as in C14.) -/
theorem C07_roundtrip_numeric (env : Env) (he : EnvOk env) (rule : Rule) (r : RuleData)
    (hr : ruleDataOf env rule = some r)
    (hnum : ∀ t ∈ r.trips, stringFields.contains t.1 = false ∧ (t.1 == LA.Gen.RuleTables.archField) = false ∧
      (t.1 == LA.Gen.RuleTables.fieldCompare) = false)
    (hperm : ∀ t ∈ r.trips, t.1 = LA.Gen.RuleTables.permField → t.2.1 ≠ 0)
    (hall : r.allSyscalls = true) (hsys : r.syscalls = []) :
    ∃ (l a : Bytes) (names : List (Bytes × Bytes)),
      getList r.flags = some l ∧ getAction r.action = some a ∧ names.length = r.trips.length ∧
      cmdLineOf r = some (joinWith [32] ([ofString "-a", a ++ [44] ++ l] ++
        (if r.flags == LA.Gen.RuleTables.exitFilter || r.flags == LA.Gen.RuleTables.entryFilter then [ofString "-S", ofString "all"] else []) ++
        (r.trips.zip names).map (fun p => ofString "-F " ++ p.2.1 ++ p.2.2 ++ fieldRhs p.1.1 p.1.2.1))) ∧
      ∃ rule' r', parseArgs (numericTokens r.flags l a ((r.trips.zip names).map (fun p => partsOf p.1 p.2.1 p.2.2))) = some rule' ∧
        ruleDataOf env rule' = some r' ∧ r'.trips = r.trips ∧ toWire r' = toWire r := by
  have hs0 : r.strings = [] := aligned_no_strings (aligned_ruleDataOf hr) (fun t ht => (hnum t ht).1)
  obtain ⟨l, a, names, h1, h2, hlen, h3, h4⟩ := C07_roundtrip_filters env he rule r hr (fun t ht => (hnum t ht).2) hperm
    (by rw [hs0]; intro s hs; cases hs) (asFileWatch_none (.inr hs0)) hall hsys
  rw [partsMixed_numeric r.trips names r.strings (fun t ht => (hnum t ht).1)] at h3 h4
  rw [List.map_map] at h3
  exact ⟨l, a, names, h1, h2, hlen, h3, h4⟩

/-- non-vacuity of `C07_roundtrip_numeric`: `-a always,exit -F pid=1 -F uid>=1000 -F exit=-2`
satisfies its hypotheses. -/
example : ((ruleDataOf ⟨false, [], []⟩ (.syscall 3 (ofString "exit") (ofString "always")
    [⟨2, ofString "pid", [61], ofString "1"⟩, ⟨2, ofString "uid", [62, 61], ofString "1000"⟩,
     ⟨2, ofString "exit", [61], ofString "-2"⟩] [] [])).map (fun r =>
      r.allSyscalls && r.syscalls.isEmpty && decide (r.trips.length = 3) &&
      r.trips.all (fun t => !(stringFields.contains t.1) && !(t.1 == LA.Gen.RuleTables.archField) &&
        !(t.1 == LA.Gen.RuleTables.fieldCompare) && !(t.1 == LA.Gen.RuleTables.permField)))) = some true := by
  decide +kernel

/-- the tokens of the line ToCommandLine prints for a rule with an explicit syscall list and no arch filter -/
def lineTokensS (l a : Bytes) (ns : List Nat) (ps : List GPart) : List Bytes :=
  [tokA, a ++ [44] ++ l, tokS, joinWith [44] (ns.map sysText)] ++ gTokens ps

/-- Second clause of C07 for rules with an explicit syscall list (no arch filter, so the names
are those of the runtime architecture's table; numbers without a name are printed as numbers):
every syscall rule Build accepts that names its syscalls, has no arch filter, no empty permission
set, and string values that are non-empty and do not begin with '=' prints as
`-a action,list -S s1,…,sn` followed by one `-F` / `-C` element per field; the `-S` value is split
at the commas into exactly those items, each resolves to the number it was printed for (the table
maps every name it gives for a number back to that number; a printed number parses to itself),
the fields re-parse and re-build as in `C07_roundtrip_no_arch`, and the wire data — syscall mask
included — is byte-identical. -/
theorem C07_roundtrip_syscalls (env : Env) (he : EnvOk env) (rule : Rule) (r : RuleData)
    (hr : ruleDataOf env rule = some r)
    (harch : ∀ t ∈ r.trips, (t.1 == LA.Gen.RuleTables.archField) = false)
    (hperm : ∀ t ∈ r.trips, t.1 = LA.Gen.RuleTables.permField → t.2.1 ≠ 0)
    (hstr : ∀ s ∈ r.strings, ∃ c tl, s = c :: tl ∧ c ≠ 61)
    (hall : r.allSyscalls = false) :
    ∃ (l a : Bytes) (ps : List GPart),
      getList r.flags = some l ∧ getAction r.action = some a ∧ ps.length = r.trips.length ∧
      cmdLineOf r = some (joinWith [32] ([ofString "-a", a ++ [44] ++ l] ++
        [ofString "-S", joinWith [44] (r.syscalls.map sysText)] ++ ps.map gPrint)) ∧
      ∃ rule' r', parseArgs (lineTokensS l a r.syscalls ps) = some rule' ∧
        ruleDataOf env rule' = some r' ∧ r'.trips = r.trips ∧ toWire r' = toWire r := by
  obtain ⟨l, a, ps, hps, h1, h2, h3, h4⟩ := roundtrip_line env he rule r hr harch hperm hstr (asFileWatch_none (.inl hall))
  simp only [sysPart, hall, Bool.false_eq_true, if_false] at h3 h4
  exact ⟨l, a, ps, h1, h2, hps.length, h3, h4⟩

/-- non-vacuity of `C07_roundtrip_syscalls`: `-a always,exit -S open,close -F pid=1 -k a` satisfies its hypotheses. -/
example : ((ruleDataOf ⟨false, [], []⟩ (.syscall 3 (ofString "exit") (ofString "always")
    [⟨2, ofString "pid", [61], ofString "1"⟩] [ofString "open", ofString "close", ofString "2000"] [ofString "a"])).map (fun r =>
      !r.allSyscalls && decide (r.syscalls = [2, 3, 2000]) && decide (r.trips.length = 2) &&
      r.strings.all (fun s => match s with | c :: _ => c != 61 | [] => false) &&
      r.trips.all (fun t => !(t.1 == LA.Gen.RuleTables.archField) && !(t.1 == LA.Gen.RuleTables.permField)))) = some true := by
  decide +kernel

end LA.Rule

/-- Packages rule and rule/flags write package-level variables only in the five table builders, which nothing but `init`
mentions (regenerated list, see LA.Proofs.StateFacts): Parse, Build and ToCommandLine are functions of their arguments. -/
theorem C07_rule_packages_keep_nothing_between_calls : LA.StateFacts.ofPkg "rule" = LA.StateFacts.ruleTableBuilders ∧ LA.StateFacts.ofPkg "rule/flags" = [] := ⟨LA.StateFacts.ofPkg_rule, LA.StateFacts.ofPkg_ruleflags⟩

/-- What the rule packages read of the process they run in is what the model is given as `Env`: the file type of a
watched path (os.Stat) and the user and group databases; package flags reads nothing (`envReads`, regenerated with
go/types on every run: package-level functions of os, os/user, os/exec, net, runtime, math/rand, crypto/rand,
time.Now / Since / Until, file-system functions of path/filepath, process queries of syscall). -/
theorem C07_environment_is_stat_and_the_id_databases :
    LA.StateFacts.envOf "rule" = LA.StateFacts.ruleEnv ∧ LA.StateFacts.envOf "rule/flags" = [] := ⟨LA.StateFacts.envOf_rule, LA.StateFacts.envOf_ruleflags⟩
