/-
Ordering lemmas for Model.Reasm: inside one 2^24 window the roll-over aware `less`
is the strict total order induced by the distance from the window base (`less_iff`), and a key list sorted in it
(`SortedKeys`) stays sorted under `insertEnd` (`sorted_insertEnd`).
-/
import LA.Proofs.Reasm

namespace LA.Reasm

/-- distance of sequence `k` from window base `b` (both < 2^32). -/
def wpos (b k : Nat) : Nat := (k + 4294967296 - b) % 4294967296

/-- `k` lies in the 2^24 window starting at `b`. -/
def InWin (b k : Nat) : Prop := b < 4294967296 ∧ k < 4294967296 ∧ wpos b k < 16777216

instance (b k : Nat) : Decidable (InWin b k) := by unfold InWin; infer_instance

/-- `less` without subtraction. -/
theorem less_iff {a b : Nat} : less a b = true ↔ (a < b ∧ b ≤ a + 16777215) ∨ b + 16777215 < a := by
  unfold less maxSortRange
  split <;> split <;> simp only [decide_eq_true_eq] <;> omega

theorem less_asymm {a b : Nat} (h : less a b = true) : less b a = false := by
  rw [← Bool.not_eq_true, less_iff]; rw [less_iff] at h; omega

/-- all that the proofs below use of `wpos`. -/
theorem InWin.pos {b k : Nat} (h : InWin b k) :
    wpos b k < 16777216 ∧ b < 4294967296 ∧ k < 4294967296 ∧ (b + wpos b k = k ∨ b + wpos b k = k + 4294967296) := by
  obtain ⟨hb, hk, hw⟩ := h
  refine ⟨hw, hb, hk, ?_⟩
  unfold wpos
  omega

theorem less_window {b x y : Nat} (hx : InWin b x) (hy : InWin b y) :
    less x y = decide (wpos b x < wpos b y) := by
  rw [Bool.eq_iff_iff, less_iff, decide_eq_true_eq]
  have := hx.pos; have := hy.pos
  omega

theorem wpos_inj {b x y : Nat} (hx : InWin b x) (hy : InWin b y) (h : wpos b x = wpos b y) : x = y := by
  have := hx.pos; have := hy.pos
  omega

def SortedKeys (l : List Nat) : Prop := l.Pairwise (fun a b => less a b = true)

theorem less_trans_win {w a b c : Nat} (ha : InWin w a) (hb : InWin w b) (hc : InWin w c)
    (h1 : less a b = true) (h2 : less b c = true) : less a c = true := by
  rw [less_window ha hb, decide_eq_true_eq] at h1
  rw [less_window hb hc, decide_eq_true_eq] at h2
  rw [less_window ha hc, decide_eq_true_eq]
  omega

theorem less_total_win {w a b : Nat} (ha : InWin w a) (hb : InWin w b) (hne : a ≠ b) (h : less a b = false) :
    less b a = true := by
  rw [less_window ha hb, decide_eq_false_iff_not] at h
  rw [less_window hb ha, decide_eq_true_eq]
  have : wpos w a ≠ wpos w b := fun h' => hne (wpos_inj ha hb h')
  omega

theorem sorted_insertEnd {w : Nat} (x : Nat × Ev) (b : Buf) (hx : InWin w x.1) (hb : ∀ k ∈ keys b, InWin w k)
    (hnew : x.1 ∉ keys b) (hs : SortedKeys (keys b)) : SortedKeys (keys (insertEnd x b)) := by
  fun_induction insertEnd x b with
  | case1 => exact List.pairwise_singleton ..
  | case2 y ys hall =>
    exact List.pairwise_cons.mpr ⟨fun k hk => by
      obtain ⟨p, hp, rfl⟩ := List.mem_map.mp hk
      exact List.all_eq_true.mp hall p hp, hs⟩
  | case3 y ys hall ih =>
    obtain ⟨hy, hys⟩ := List.forall_mem_cons.mp hb
    obtain ⟨hyys, hs'⟩ := List.pairwise_cons.mp hs
    -- some `z` of `y :: ys` is not above `x`; it is `y` or above `y`; so `y` is below `x`
    obtain ⟨z, hz, hzx⟩ : ∃ z ∈ y :: ys, less x.1 z.1 = false := by
      simpa only [Bool.not_eq_true, List.all_eq_false] using hall
    have hzw : InWin w z.1 := hb _ (mem_keys_of_mem hz)
    have hzx : less z.1 x.1 = true := less_total_win hx hzw (fun h => hnew (h ▸ mem_keys_of_mem hz)) hzx
    have hyx : less y.1 x.1 = true := by
      rcases List.mem_cons.mp hz with rfl | hz'
      · exact hzx
      · exact less_trans_win hy hzw hx (hyys _ (mem_keys_of_mem hz')) hzx
    refine List.pairwise_cons.mpr ⟨fun k hk => ?_, ih hys (fun h => hnew (List.mem_cons_of_mem _ h)) hs'⟩
    rcases List.mem_cons.mp ((keys_insertEnd_perm x ys).subset hk) with rfl | hk
    · exact hyx
    · exact hyys k hk

end LA.Reasm
