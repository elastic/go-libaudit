/-
Lemmas about Model.Reasm. `put` is `modifyKey` (what `markComplete` and `appendTo` both are: rewrite the first event
with a key) or `insertEnd` (`put_cases`); a call is `put` followed by the eviction of a prefix of the buffer (`step_spec`).
`Reach T h` is the one invariant, indexed by the history `h` that led to the state, and `mem_run_trace` turns a
statement about the outputs of a run into one about a single call made in a state the run reaches. Two things `Reach`
does not carry: what goes in comes out or stays (`put_conserve`, `step_conserve`, `run_conserve`: C01, C02), and why the
evicted events left (`cleanUp_head`, `head_not_evictable`, `Caused`, `step_caused`, `lostOf`: C03, C10, C19).
-/
import LA.Model.Reasm

namespace LA.Reasm

def keys (b : Buf) : List Nat := b.map (·.1)

def allMsgs (b : Buf) : List Msg := b.flatMap (·.2.msgs)

@[simp] theorem keys_nil : keys [] = [] := rfl
@[simp] theorem keys_cons (p : Nat × Ev) (b : Buf) : keys (p :: b) = p.1 :: keys b := rfl
@[simp] theorem allMsgs_nil : allMsgs [] = [] := rfl
@[simp] theorem allMsgs_cons (p : Nat × Ev) (b : Buf) : allMsgs (p :: b) = p.2.msgs ++ allMsgs b := by
  simp [allMsgs]
theorem allMsgs_append (a b : Buf) : allMsgs (a ++ b) = allMsgs a ++ allMsgs b := by
  simp [allMsgs]

theorem allMsgs_perm {a b : Buf} (h : a.Perm b) : (allMsgs a).Perm (allMsgs b) :=
  List.Perm.flatMap_right _ h

theorem mem_keys_of_mem {p : Nat × Ev} {b : Buf} (h : p ∈ b) : p.1 ∈ keys b := List.mem_map.mpr ⟨p, h, rfl⟩

theorem hasKey_iff (k : Nat) (b : Buf) : hasKey k b = true ↔ k ∈ keys b := by
  simp [hasKey, keys]

theorem hasKey_false_iff (k : Nat) (b : Buf) : hasKey k b = false ↔ k ∉ keys b := by
  rw [← Bool.not_eq_true, hasKey_iff]

theorem event_unique {b : Buf} (hnd : (keys b).Nodup) {p q : Nat × Ev} (hp : p ∈ b) (hq : q ∈ b) (hk : p.1 = q.1) : p = q := by
  induction b with
  | nil => cases hp
  | cons x xs ih =>
    simp only [keys_cons, List.nodup_cons] at hnd
    rcases List.mem_cons.mp hp with rfl | hp' <;> rcases List.mem_cons.mp hq with rfl | hq'
    · rfl
    · exact absurd (hk ▸ mem_keys_of_mem hq') hnd.1
    · exact absurd (hk ▸ mem_keys_of_mem hp') hnd.1
    · exact ih hnd.2 hp' hq'

/-! `insertEnd`, `modifyKey` and `cleanUp` go by `fun_induction`, one case per line of the definition: case 1 the empty
buffer, case 2 the `then` branch at the head of the buffer, case 3 the `else` branch. -/

theorem insertEnd_perm (x : Nat × Ev) (b : Buf) : (insertEnd x b).Perm (x :: b) := by
  fun_induction insertEnd x b with
  | case1 => exact .refl _
  | case2 => exact .refl _
  | case3 y ys _ ih => exact (ih.cons y).trans (.swap x y ys)

theorem keys_insertEnd_perm (x : Nat × Ev) (b : Buf) : (keys (insertEnd x b)).Perm (x.1 :: keys b) :=
  (insertEnd_perm x b).map Prod.fst

theorem mem_insertEnd {x p : Nat × Ev} {b : Buf} : p ∈ insertEnd x b ↔ p = x ∨ p ∈ b := by
  rw [(insertEnd_perm x b).mem_iff]; simp

/-- what `markComplete` and `appendTo` both are: rewrite the first event with key `k`. -/
def modifyKey (k : Nat) (f : Ev → Ev) : Buf → Buf
  | [] => []
  | (k', e) :: rest => if k' == k then (k', f e) :: rest else (k', e) :: modifyKey k f rest

theorem markComplete_eq (seq : Nat) (b : Buf) :
    markComplete seq b = modifyKey seq (fun e => { e with complete := true }) b := by
  induction b with
  | nil => rfl
  | cons p b ih => simp only [markComplete, modifyKey, ih]

abbrev Ev.add (e : Ev) (m : Msg) : Ev := { e with msgs := e.msgs ++ [m], complete := e.complete || completes m.typ }

theorem appendTo_eq (m : Msg) (b : Buf) : appendTo m b = modifyKey m.seq (·.add m) b := by
  induction b with
  | nil => rfl
  | cons p b ih => simp only [appendTo, modifyKey, ih]

@[simp] theorem keys_modifyKey (k : Nat) (f : Ev → Ev) (b : Buf) : keys (modifyKey k f b) = keys b := by
  fun_induction modifyKey k f b with
  | case1 => rfl
  | case2 => rfl
  | case3 k' e rest _ ih => exact congrArg (k' :: ·) ih

theorem mem_modifyKey {k : Nat} {f : Ev → Ev} {b : Buf} {p : Nat × Ev} (h : p ∈ modifyKey k f b) :
    p ∈ b ∨ ∃ e, (k, e) ∈ b ∧ p = (k, f e) := by
  fun_induction modifyKey k f b with
  | case1 => cases h
  | case2 k' e rest hk =>
    cases beq_iff_eq.mp hk
    rcases List.mem_cons.mp h with rfl | h
    · exact .inr ⟨e, List.mem_cons_self, rfl⟩
    · exact .inl (List.mem_cons_of_mem _ h)
  | case3 k' e rest _ ih =>
    rcases List.mem_cons.mp h with rfl | h
    · exact .inl List.mem_cons_self
    · exact (ih h).imp (List.mem_cons_of_mem _) fun ⟨e, he, hp⟩ => ⟨e, List.mem_cons_of_mem _ he, hp⟩

theorem modifyKey_hit {k : Nat} (f : Ev → Ev) {b : Buf} (h : k ∈ keys b) :
    ∃ e, (k, e) ∈ b ∧ (k, f e) ∈ modifyKey k f b := by
  fun_induction modifyKey k f b with
  | case1 => cases h
  | case2 k' e rest hk =>
    cases beq_iff_eq.mp hk
    exact ⟨e, List.mem_cons_self, List.mem_cons_self⟩
  | case3 k' e rest hk ih =>
    rcases List.mem_cons.mp h with rfl | h
    · exact absurd (beq_self_eq_true _) hk
    · obtain ⟨e, he, he'⟩ := ih h
      exact ⟨e, List.mem_cons_of_mem _ he, List.mem_cons_of_mem _ he'⟩

theorem allMsgs_modifyKey_perm {k : Nat} {f : Ev → Ev} {x : List Msg} (hf : ∀ e, (f e).msgs = e.msgs ++ x)
    {b : Buf} (h : k ∈ keys b) : (allMsgs (modifyKey k f b)).Perm (x ++ allMsgs b) := by
  fun_induction modifyKey k f b with
  | case1 => cases h
  | case2 k' e rest _ =>
    simp only [allMsgs_cons, hf, List.append_assoc]
    exact List.perm_append_comm_assoc ..
  | case3 k' e rest hk ih =>
    rcases List.mem_cons.mp h with rfl | h
    · exact absurd (beq_self_eq_true _) hk
    · simp only [allMsgs_cons]
      exact (List.Perm.append_left _ (ih h)).trans (List.perm_append_comm_assoc ..)

theorem allMsgs_modifyKey {k : Nat} {f : Ev → Ev} (hf : ∀ e, (f e).msgs = e.msgs) (b : Buf) :
    allMsgs (modifyKey k f b) = allMsgs b := by
  fun_induction modifyKey k f b with
  | case1 => rfl
  | case2 k' e rest _ => simp [hf]
  | case3 k' e rest _ ih => simp [ih]

/-- the event a record opens when no event with its sequence number is buffered. -/
abbrev newEv (s : St) (m : Msg) (t : Int) : Nat × Ev :=
  (m.seq, { expire := t + s.timeout, msgs := [m], complete := completes m.typ })

theorem put_buf (s : St) (m : Msg) (t : Int) : put s m t = { s with buf := (put s m t).buf } := by
  fun_cases put s m t <;> rfl

@[simp] theorem put_maxSize (s : St) (m : Msg) (t : Int) : (put s m t).maxSize = s.maxSize := by rw [put_buf]
@[simp] theorem put_timeout (s : St) (m : Msg) (t : Int) : (put s m t).timeout = s.timeout := by rw [put_buf]
@[simp] theorem put_closed (s : St) (m : Msg) (t : Int) : (put s m t).closed = s.closed := by rw [put_buf]
@[simp] theorem put_last (s : St) (m : Msg) (t : Int) : (put s m t).last = s.last := by rw [put_buf]

theorem put_cases (s : St) (m : Msg) (t : Int) :
    (m.typ = EOE ∧ (put s m t).buf = modifyKey m.seq (fun e => { e with complete := true }) s.buf) ∨
    (m.typ ≠ EOE ∧ m.seq ∈ keys s.buf ∧ (put s m t).buf = modifyKey m.seq (·.add m) s.buf) ∨
    (m.typ ≠ EOE ∧ m.seq ∉ keys s.buf ∧ (put s m t).buf = insertEnd (newEv s m t) s.buf) := by
  fun_cases put s m t with
  | case1 he => exact .inl ⟨beq_iff_eq.mp he, markComplete_eq ..⟩
  | case2 he hk => exact .inr (.inl ⟨(he <| beq_iff_eq.mpr ·), (hasKey_iff ..).mp hk, appendTo_eq ..⟩)
  | case3 he hk => exact .inr (.inr ⟨(he <| beq_iff_eq.mpr ·), (hk <| (hasKey_iff ..).mpr ·), rfl⟩)

theorem mem_put {s : St} {m : Msg} {t : Int} {p : Nat × Ev} (hp : p ∈ (put s m t).buf) :
    p ∈ s.buf ∨
    (∃ e, (m.seq, e) ∈ s.buf ∧ m.typ = EOE ∧ p = (m.seq, { e with complete := true })) ∨
    (∃ e, (m.seq, e) ∈ s.buf ∧ m.typ ≠ EOE ∧ p = (m.seq, e.add m)) ∨
    (m.typ ≠ EOE ∧ m.seq ∉ keys s.buf ∧ p = newEv s m t) := by
  rcases put_cases s m t with ⟨he, hb⟩ | ⟨he, _, hb⟩ | ⟨he, hk, hb⟩ <;> rw [hb] at hp
  · exact (mem_modifyKey hp).imp_right fun ⟨e, h1, h2⟩ => .inl ⟨e, h1, he, h2⟩
  · exact (mem_modifyKey hp).imp_right fun ⟨e, h1, h2⟩ => .inr (.inl ⟨e, h1, he, h2⟩)
  · exact (mem_insertEnd.mp hp).elim (fun h => .inr (.inr (.inr ⟨he, hk, h⟩))) .inl

theorem put_hit (s : St) {m : Msg} (t : Int) (he : m.typ ≠ EOE) :
    (m.seq ∉ keys s.buf ∧ newEv s m t ∈ (put s m t).buf) ∨
    ∃ e, (m.seq, e) ∈ s.buf ∧ (m.seq, e.add m) ∈ (put s m t).buf := by
  rcases put_cases s m t with ⟨h, _⟩ | ⟨_, hk, hb⟩ | ⟨_, hk, hb⟩
  · exact absurd h he
  · exact .inr (hb ▸ modifyKey_hit _ hk)
  · exact .inl ⟨hk, hb ▸ mem_insertEnd.mpr (.inl rfl)⟩

theorem cleanUp_append (now m : Int) (b : Buf) : (cleanUp now m b).1 ++ (cleanUp now m b).2 = b := by
  fun_induction cleanUp now m b with
  | case1 => rfl
  | case2 k e rest _ r ih => exact congrArg ((k, e) :: ·) ih
  | case3 => rfl

theorem cleanUp_snd_length_le (now m : Int) (b : Buf) : (cleanUp now m b).2.length ≤ b.length := by
  have := congrArg List.length (cleanUp_append now m b)
  simp at this; omega

theorem cleanUp_snd_suffix (now m : Int) (b : Buf) : (cleanUp now m b).2 <:+ b :=
  ⟨(cleanUp now m b).1, cleanUp_append now m b⟩

theorem cleanUp_fst_prefix (now m : Int) (b : Buf) : (cleanUp now m b).1 <+: b :=
  ⟨(cleanUp now m b).2, cleanUp_append now m b⟩

/-- the events evicted by a step, i.e. a prefix of the buffer after `put`. -/
def evictedBy (s : St) : Op → Buf
  | .push m tp tc => (cleanUp tc s.maxSize (put s m tp).buf).1
  | .pushNil => []
  | .maintain t => if s.closed then [] else (cleanUp t s.maxSize s.buf).1
  | .close => if s.closed then [] else s.buf

/-- the buffer against which a step evicts (after `put` for a push). -/
def bufBeforeEvict (s : St) : Op → Buf
  | .push m tp _ => (put s m tp).buf
  | _ => s.buf

/-- What a call does, in terms of the events it evicts. -/
structure StepSpec (s : St) (op : Op) : Prop where
  buf : evictedBy s op ++ (step s op).1.buf = bufBeforeEvict s op
  last : (step s op).1.last = (account s.last (keys (evictedBy s op))).1
  maxSize : (step s op).1.maxSize = s.maxSize
  timeout : (step s op).1.timeout = s.timeout
  closed : (step s op).1.closed = (s.closed || decide (op = .close))
  /-- the first alternative is Maintain or Close on a closed Reassembler. -/
  out : (step s op).2 = [Out.err] ∧ evictedBy s op = [] ∨
    (step s op).2 = callback (evictedBy s op) (account s.last (keys (evictedBy s op))).2

theorem step_spec (s : St) (op : Op) : StepSpec s op := by
  cases op with
  | push m tp tc =>
    -- `evictStep` on the state after `put`, which differs from `s` in the buffer only (`put_maxSize` … `put_last`)
    constructor <;> simp [step, evictStep, evictedBy, bufBeforeEvict, cleanUp_append, keys]
  | pushNil => exact ⟨rfl, rfl, rfl, rfl, (Bool.or_false _).symm, .inr rfl⟩
  | maintain t =>
    -- with the flag a literal (open, then closed), `step` computes
    obtain ⟨b, l, M, T, _ | _⟩ := s
    · exact ⟨cleanUp_append .., rfl, rfl, rfl, rfl, .inr rfl⟩
    · exact ⟨rfl, rfl, rfl, rfl, rfl, .inl ⟨rfl, rfl⟩⟩
  | close =>
    obtain ⟨b, l, M, T, _ | _⟩ := s
    · exact ⟨List.append_nil _, rfl, rfl, rfl, rfl, .inr rfl⟩
    · exact ⟨rfl, rfl, rfl, rfl, rfl, .inl ⟨rfl, rfl⟩⟩

theorem evictedBy_prefix (s : St) (op : Op) : evictedBy s op <+: bufBeforeEvict s op := ⟨_, (step_spec s op).buf⟩

theorem step_buf_suffix (s : St) (op : Op) : (step s op).1.buf <:+ bufBeforeEvict s op := ⟨_, (step_spec s op).buf⟩

theorem step_close {s : St} (hc : s.closed = false) : evictedBy s .close = s.buf ∧ (step s .close).1.buf = [] := by
  have hev : evictedBy s .close = s.buf := by simp [evictedBy, hc]
  have : evictedBy s .close ++ (step s .close).1.buf = s.buf := (step_spec s .close).buf
  exact ⟨hev, by rwa [hev, List.append_right_eq_self] at this⟩

def groupsOf (outs : List Out) : List Msg :=
  outs.flatMap (fun o => match o with | .group ms => ms | _ => [])

@[simp] theorem groupsOf_nil : groupsOf [] = [] := rfl

def delivered (tr : List (List Out)) : List Msg := tr.flatMap groupsOf

def pushedOf : Op → List Msg
  | .push m _ _ => if m.typ == EOE then [] else [m]
  | _ => []

def pushed (ops : List Op) : List Msg := ops.flatMap pushedOf

def groupLists (outs : List Out) : List (List Msg) :=
  outs.filterMap (fun o => match o with | .group ms => some ms | _ => none)

theorem groupLists_callback (ev : Buf) (n : Nat) : groupLists (callback ev n) = ev.map (·.2.msgs) := by
  induction ev with
  | nil =>
    show groupLists (if n > 0 then [Out.lost n] else []) = []
    split <;> rfl
  | cons p ev ih => exact congrArg (p.2.msgs :: ·) ih

theorem groupsOf_eq_flatten (outs : List Out) : groupsOf outs = (groupLists outs).flatten := by
  induction outs with
  | nil => rfl
  | cons o outs ih =>
    -- a group contributes its records to both sides, anything else to neither
    cases o with
    | group ms => exact congrArg (ms ++ ·) ih
    | _ => exact ih

theorem groupsOf_callback (ev : Buf) (n : Nat) : groupsOf (callback ev n) = allMsgs ev := by
  rw [groupsOf_eq_flatten, groupLists_callback, allMsgs, List.flatMap_def]

theorem groupLists_step (s : St) (op : Op) :
    groupLists (step s op).2 = (evictedBy s op).map (·.2.msgs) := by
  rcases (step_spec s op).out with ⟨h, he⟩ | h
  · rw [h, he]; rfl
  · rw [h, groupLists_callback]

theorem groupsOf_step (s : St) (op : Op) : groupsOf (step s op).2 = allMsgs (evictedBy s op) := by
  rw [groupsOf_eq_flatten, groupLists_step, allMsgs, List.flatMap_def]

/-- sum of the counts passed to EventsLost by one call. -/
def lostOf (outs : List Out) : Nat :=
  (outs.map (fun o => match o with | .lost n => n | _ => 0)).sum

theorem lostOf_callback (ev : Buf) (n : Nat) : lostOf (callback ev n) = n := by
  induction ev with
  | nil =>
    show lostOf (if n > 0 then [Out.lost n] else []) = n
    split
    · exact Nat.add_zero n
    · exact (Nat.eq_zero_of_not_pos ‹_›).symm
  | cons p ev ih => exact (Nat.zero_add _).trans ih

theorem lostOf_step (s : St) (op : Op) : lostOf (step s op).2 = (account s.last (keys (evictedBy s op))).2 := by
  rcases (step_spec s op).out with ⟨h, he⟩ | h
  · rw [h, he]; rfl
  · rw [h, lostOf_callback]

theorem run_append (s : St) (a b : List Op) :
    run s (a ++ b) = ((run (run s a).1 b).1, (run s a).2 ++ (run (run s a).1 b).2) := by
  induction a generalizing s with
  | nil => simp [run]
  | cons op a ih => simp [run, ih]

theorem mem_run_trace {s : St} {ops : List Op} {outs : List Out} (h : outs ∈ (run s ops).2) :
    ∃ pre op post, ops = pre ++ op :: post ∧ outs = (step (run s pre).1 op).2 := by
  induction ops generalizing s with
  | nil => cases h
  | cons o ops ih =>
    rcases List.mem_cons.mp h with h | h
    · exact ⟨[], o, ops, rfl, h⟩
    · obtain ⟨pre, op, post, h1, h2⟩ := ih h
      exact ⟨o :: pre, op, post, by rw [h1]; rfl, h2⟩

structure Inv (s : St) : Prop where
  nodup : (keys s.buf).Nodup
  uniform : ∀ p ∈ s.buf, ∀ m ∈ p.2.msgs, m.seq = p.1
  nonempty : ∀ p ∈ s.buf, p.2.msgs ≠ []

theorem Inv.same_event {s : St} (h : Inv s) {p q : Nat × Ev} (hp : p ∈ s.buf) (hq : q ∈ s.buf) {x y : Msg}
    (hx : x ∈ p.2.msgs) (hy : y ∈ q.2.msgs) (hxy : x.seq = y.seq) : p = q :=
  event_unique h.nodup hp hq (by rw [← h.uniform p hp x hx, ← h.uniform q hq y hy, hxy])

theorem inv_init (ms to : Int) : Inv (init ms to) := ⟨by simp [init], by simp [init], by simp [init]⟩

theorem inv_of_sublist {s s' : St} (h : Inv s) (hsub : s'.buf.Sublist s.buf) : Inv s' :=
  ⟨(h.nodup.sublist (hsub.map _)), fun p hp => h.uniform p (hsub.subset hp), fun p hp => h.nonempty p (hsub.subset hp)⟩

theorem nodup_put {s : St} (h : (keys s.buf).Nodup) (m : Msg) (t : Int) : (keys (put s m t).buf).Nodup := by
  rcases put_cases s m t with ⟨_, hb⟩ | ⟨_, _, hb⟩ | ⟨_, hk, hb⟩ <;> rw [hb]
  · rwa [keys_modifyKey]
  · rwa [keys_modifyKey]
  · exact (keys_insertEnd_perm _ _).nodup_iff.mpr (List.nodup_cons.mpr ⟨hk, h⟩)

theorem inv_put {s : St} (h : Inv s) (m : Msg) (t : Int) : Inv (put s m t) := by
  -- both by where the event comes from (`mem_put`): an old one, one marked complete, one `m` joined, the one `m` opens
  refine ⟨nodup_put h.nodup m t, fun p hp x hx => ?_, fun p hp => ?_⟩
  · rcases mem_put hp with hp | ⟨e, he, _, rfl⟩ | ⟨e, he, _, rfl⟩ | ⟨_, _, rfl⟩
    · exact h.uniform p hp x hx
    · exact h.uniform _ he x hx
    · rcases List.mem_append.mp hx with hx | hx
      · exact h.uniform _ he x hx
      · simp at hx; rw [hx]
    · simp at hx; rw [hx]
  · rcases mem_put hp with hp | ⟨e, he, _, rfl⟩ | ⟨e, he, _, rfl⟩ | ⟨_, _, rfl⟩
    · exact h.nonempty p hp
    · exact h.nonempty (m.seq, e) he
    · simp
    · simp

theorem evictStep_conserve (s : St) (r : Buf × Buf) :
    groupsOf (evictStep s r).2 ++ allMsgs (evictStep s r).1.buf = allMsgs (r.1 ++ r.2) := by
  simp [evictStep, groupsOf_callback, allMsgs_append]

theorem put_conserve (s : St) (m : Msg) (t : Int) :
    (allMsgs (put s m t).buf).Perm ((if m.typ == EOE then [] else [m]) ++ allMsgs s.buf) := by
  rcases put_cases s m t with ⟨he, hb⟩ | ⟨he, hk, hb⟩ | ⟨he, _, hb⟩ <;> rw [hb]
  · rw [if_pos (beq_iff_eq.mpr he), allMsgs_modifyKey]
    · exact .refl _
    · exact fun _ => rfl
  · rw [if_neg (he <| beq_iff_eq.mp ·)]; exact allMsgs_modifyKey_perm (x := [m]) (fun _ => rfl) hk
  · rw [if_neg (he <| beq_iff_eq.mp ·)]; exact allMsgs_perm (insertEnd_perm ..)

theorem step_conserve (s : St) (op : Op) :
    (groupsOf (step s op).2 ++ allMsgs (step s op).1.buf).Perm (pushedOf op ++ allMsgs s.buf) := by
  rw [groupsOf_step, ← allMsgs_append, (step_spec s op).buf]
  cases op with
  | push m tp tc => exact put_conserve s m tp
  | _ => exact List.Perm.refl _

theorem run_conserve (s : St) (ops : List Op) :
    (delivered (run s ops).2 ++ allMsgs (run s ops).1.buf).Perm (pushed ops ++ allMsgs s.buf) := by
  induction ops generalizing s with
  | nil => simp [run, delivered, pushed]
  | cons op ops ih =>
    simp only [run, delivered, pushed, List.flatMap_cons, List.append_assoc]
    exact ((ih _).append_left _).trans <| (List.perm_append_comm_assoc ..).trans <|
      (step_conserve s op).append_left _ |>.trans (List.perm_append_comm_assoc ..)

theorem pushed_append (a b : List Op) : pushed (a ++ b) = pushed a ++ pushed b := List.flatMap_append ..

/-- arrival order inside an event: every buffered event's messages are a subsequence of the pushes so far `H`. (The order
of the events by sequence number is `SortedKeys`, in Proofs/ReasmOrder.) -/
def OrderInv (H : List Msg) (b : Buf) : Prop := ∀ p ∈ b, p.2.msgs.Sublist H

theorem orderInv_mono {H H' : List Msg} {b : Buf} (h : OrderInv H b) (hh : H.Sublist H') : OrderInv H' b :=
  fun p hp => (h p hp).trans hh

/-- The invariant, indexed by a history: what the calls `h` made on a Reassembler with timeout `T` leave true of the
state. It is not reachability: it also holds of a state with fewer events, and of the same state with `h` extended
(`Reach.weaken`), which is how it is carried over an eviction. -/
structure Reach (T : Int) (h : List Op) (s : St) : Prop where
  timeout : s.timeout = T
  inv : Inv s
  order : OrderInv (pushed h) s.buf
  first : ∀ p ∈ s.buf, ∃ m tp tc, Op.push m tp tc ∈ h ∧ p.2.msgs.head? = some m ∧ p.2.expire = tp + T

theorem reach_init (M T : Int) : Reach T [] (init M T) :=
  ⟨rfl, inv_init M T, fun _ hp => (nomatch hp), fun _ hp => (nomatch hp)⟩

theorem Reach.weaken {T : Int} {h h' : List Op} {s s' : St} (r : Reach T h s) (hh : h <+: h')
    (ht : s'.timeout = s.timeout) (hb : s'.buf.Sublist s.buf) : Reach T h' s' := by
  obtain ⟨l, rfl⟩ := hh
  exact {
    timeout := ht.trans r.timeout
    inv := inv_of_sublist r.inv hb
    order := orderInv_mono (fun p hp => r.order p (hb.subset hp)) (pushed_append h l ▸ List.sublist_append_left ..)
    first := fun p hp =>
      let ⟨m, tp, tc, h0, h1, h2⟩ := r.first p (hb.subset hp)
      ⟨m, tp, tc, List.mem_append_left _ h0, h1, h2⟩ }

theorem reach_put {T : Int} {h : List Op} {s : St} (r : Reach T h s) (m : Msg) (tp tc : Int) :
    Reach T (h ++ [.push m tp tc]) (put s m tp) := by
  have old := r.weaken (List.prefix_append h [.push m tp tc]) rfl (.refl _)
  have hpush : ∀ l, m.typ ≠ EOE → l.Sublist (pushed h) → (l ++ [m]).Sublist (pushed (h ++ [.push m tp tc])) := by
    intro l hne hl
    have : pushed [Op.push m tp tc] = [m] := by simp [pushed, pushedOf, hne]
    rw [pushed_append, this]; exact hl.append (.refl _)
  -- `order` and `first`, each by where the event comes from (`mem_put`)
  refine ⟨(put_timeout ..).trans r.timeout, inv_put r.inv m tp, fun p hp => ?_, fun p hp => ?_⟩
  · rcases mem_put hp with hp | ⟨e, he, _, rfl⟩ | ⟨e, he, hne, rfl⟩ | ⟨hne, _, rfl⟩
    · exact old.order p hp
    · exact old.order (m.seq, e) he
    · exact hpush _ hne (r.order (m.seq, e) he)
    · exact hpush [] hne (List.nil_sublist _)
  · rcases mem_put hp with hp | ⟨e, he, _, rfl⟩ | ⟨e, he, _, rfl⟩ | ⟨_, _, rfl⟩
    · exact old.first p hp
    · exact old.first (m.seq, e) he
    · obtain ⟨m0, tp0, tc0, h0, h1, h2⟩ := old.first (m.seq, e) he
      exact ⟨m0, tp0, tc0, h0, by rw [List.head?_append, h1]; rfl, h2⟩
    · exact ⟨m, tp, tc, by simp, rfl, by rw [← r.timeout]⟩

theorem reach_bufBeforeEvict {T : Int} {h : List Op} {s : St} (r : Reach T h s) (op : Op) :
    Reach T (h ++ [op]) { s with buf := bufBeforeEvict s op } := by
  cases op with
  | push m tp tc => exact (reach_put r m tp tc).weaken (List.prefix_refl _) (put_timeout s m tp).symm (.refl _)
  | _ => exact r.weaken (List.prefix_append ..) rfl (.refl _)

theorem reach_step {T : Int} {h : List Op} {s : St} (r : Reach T h s) (op : Op) :
    Reach T (h ++ [op]) (step s op).1 :=
  (reach_bufBeforeEvict r op).weaken (List.prefix_refl _) (step_spec s op).timeout (step_buf_suffix s op).sublist

theorem reach_run_from {T : Int} {h : List Op} {s : St} (r : Reach T h s) (ops : List Op) :
    Reach T (h ++ ops) (run s ops).1 := by
  induction ops generalizing h s with
  | nil => simpa [run] using r
  | cons op ops ih => simpa [run] using ih (reach_step r op)

theorem reach_run (M T : Int) (ops : List Op) : Reach T ops (run (init M T) ops).1 :=
  reach_run_from (reach_init M T) ops

theorem group_of_run {M T : Int} {ops : List Op} {outs : List Out} {g : List Msg}
    (ho : outs ∈ (run (init M T) ops).2) (hg : g ∈ groupLists outs) :
    ∃ s, Reach T ops s ∧ ∃ p ∈ s.buf, g = p.2.msgs := by
  -- `s` is the buffer the delivering call evicts from; the history up to that call is a prefix of `ops`
  obtain ⟨pre, op, post, rfl, rfl⟩ := mem_run_trace ho
  rw [groupLists_step] at hg
  obtain ⟨p, hp, rfl⟩ := List.mem_map.mp hg
  exact ⟨_, (reach_bufBeforeEvict (reach_run M T pre) op).weaken ⟨post, (List.append_cons ..).symm⟩ rfl (.refl _),
    p, (evictedBy_prefix _ op).subset hp, rfl⟩

theorem cleanUp_head (now m : Int) (b : Buf) :
    ∀ p, (cleanUp now m b).2.head? = some p →
      evictable now m (cleanUp now m b).2.length p.2 = false := by
  fun_induction cleanUp now m b with
  | case1 => nofun
  | case2 k e rest _ r ih => exact ih
  | case3 k e rest h =>
    intro p hp
    cases hp
    exact Bool.not_eq_true _ ▸ h

/-- the call `op` runs CleanUp, with clock reading `now`: a push does, and Maintain on an open Reassembler. -/
def Cleans (s : St) (op : Op) (now : Int) : Prop :=
  (∃ m tp, op = .push m tp now) ∨ (op = .maintain now ∧ s.closed = false)

theorem step_cleans {s : St} {op : Op} {now : Int} (hop : Cleans s op now) :
    evictedBy s op = (cleanUp now s.maxSize (bufBeforeEvict s op)).1 ∧
    (step s op).1.buf = (cleanUp now s.maxSize (bufBeforeEvict s op)).2 := by
  rcases hop with ⟨m, tp, rfl⟩ | ⟨rfl, hc⟩
  · exact ⟨rfl, by simp [step, evictStep, bufBeforeEvict]⟩
  · simp [step, evictStep, evictedBy, bufBeforeEvict, hc]

theorem head_not_evictable {s : St} {op : Op} {now : Int} (hop : Cleans s op now) :
    ∀ p, (step s op).1.buf.head? = some p →
      p.2.complete = false ∧ ¬ ((step s op).1.buf.length : Int) > s.maxSize ∧ ¬ now > p.2.expire := by
  intro p hp
  rw [(step_cleans hop).2] at hp ⊢
  simpa only [evictable, Bool.or_eq_false_iff, decide_eq_false_iff_not, and_assoc] using cleanUp_head _ _ _ p hp

/-- every event in `ev` was evictable at the moment it was the head, when `n` events were buffered. -/
def Caused (now m : Int) : Nat → Buf → Prop
  | _, [] => True
  | n, p :: rest => evictable now m n p.2 = true ∧ Caused now m (n - 1) rest

theorem cleanUp_caused (now m : Int) (b : Buf) : Caused now m b.length (cleanUp now m b).1 := by
  fun_induction cleanUp now m b with
  | case1 => trivial
  | case2 k e rest h r ih => exact ⟨h, ih⟩
  | case3 => trivial

theorem Caused.of_mem {now m : Int} {n : Nat} {ev : Buf} (h : Caused now m n ev) {p : Nat × Ev} (hp : p ∈ ev) :
    ∃ k, k ≤ n ∧ evictable now m k p.2 = true := by
  induction ev generalizing n with
  | nil => cases hp
  | cons q ev ih =>
    rcases List.mem_cons.mp hp with rfl | hp
    · exact ⟨n, Nat.le_refl _, h.1⟩
    · obtain ⟨k, hk, he⟩ := ih h.2 hp
      exact ⟨k, by omega, he⟩

theorem step_caused {s : St} {op : Op} {now : Int} (hop : Cleans s op now) :
    Caused now s.maxSize (bufBeforeEvict s op).length (evictedBy s op) :=
  (step_cleans hop).1 ▸ cleanUp_caused ..

theorem account_append (last : Option Nat) (a b : List Nat) :
    account last (a ++ b) = ((account (account last a).1 b).1, (account last a).2 + (account (account last a).1 b).2) := by
  induction a generalizing last with
  | nil => simp [account]
  | cons x a ih => simp [account, ih, Nat.add_assoc]

end LA.Reasm
