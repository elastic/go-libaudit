/-
C19 — Stale events are flushed after their timeout and everything is flushed by Close.
A push carries two clock readings, that of Put (the deadline of a new event) and that of CleanUp; the `time.Now()` reads
of the `IsExpired` calls inside one CleanUp are collapsed to one instant.
-/
import LA.Proofs.Reasm
import LA.Proofs.StateObligations.Root
import LA.Gen.ReasmFacts

namespace LA.Reasm

/-- `NewReassembler`: a nil Stream is rejected. -/
def newReassembler (hasStream : Bool) (maxSize timeout : Int) : Option St :=
  if hasStream then some (init maxSize timeout) else none

theorem C19_nil_stream (maxSize timeout : Int) : newReassembler false maxSize timeout = none := rfl

/-- An expired event is delivered by the first Maintain or push after its timeout elapsed, as
soon as it is the oldest buffered event: after the call's CleanUp, the head of the buffer is
never an event whose timeout has elapsed. -/
theorem C19_expired_head_goes (s : St) (op : Op) (now : Int)
    (hop : (∃ m tp, op = .push m tp now) ∨ (op = .maintain now ∧ s.closed = false)) :
    ∀ p, (step s op).1.buf.head? = some p → ¬ (now > p.2.expire) :=
  fun p hp => (head_not_evictable hop p hp).2.2

/-- … and never on account of time before that: an incomplete event evicted by a push or
Maintain while no more than maxInFlight events were buffered had its timeout elapsed.
(`Caused` unfolds to: complete ∨ size > maxInFlight ∨ now > expire, for each evicted event at
the moment it was the head.) -/
theorem C19_not_before (now m : Int) (n : Nat) (p : Nat × Ev) (rest : Buf)
    (h : Caused now m n (p :: rest)) (hinc : p.2.complete = false) (hsize : ¬ ((n : Int) > m)) :
    now > p.2.expire := by
  have := h.1
  simp only [evictable, hinc, Bool.false_or, Bool.or_eq_true, decide_eq_true_eq] at this
  rcases this with h1 | h1
  · exact absurd h1 hsize
  · exact h1

/-- the expiry deadline of an event is fixed when its first record is buffered (timeout after
that push's clock read) and never changes afterwards. -/
theorem C19_deadline_fixed (s : St) (m : Msg) (t : Int) :
    ∀ p ∈ (put s m t).buf, (∃ p' ∈ s.buf, p'.1 = p.1 ∧ p'.2.expire = p.2.expire) ∨
      (p.1 = m.seq ∧ p.2.expire = t + s.timeout ∧ hasKey m.seq s.buf = false) := by
  intro p hp
  rcases mem_put hp with hp | ⟨e, he, _, rfl⟩ | ⟨e, he, _, rfl⟩ | ⟨_, hk, rfl⟩
  · exact Or.inl ⟨p, hp, rfl, rfl⟩
  · exact Or.inl ⟨_, he, rfl, rfl⟩
  · exact Or.inl ⟨_, he, rfl, rfl⟩
  · exact Or.inr ⟨rfl, rfl, (hasKey_false_iff ..).mpr hk⟩

/-- **The timeout runs from the first record, whatever arrives later.** After any history on a fresh
Reassembler, the deadline of every buffered event is the clock reading of the push that buffered the
event's *first* record plus the configured timeout: later records of the event, EOE markers, Maintain
calls and pushes of other events never move it. -/
theorem C19_deadline_from_first_record (maxSize timeout : Int) (ops : List Op) :
    ∀ p ∈ (run (init maxSize timeout) ops).1.buf,
      ∃ m tp tc, Op.push m tp tc ∈ ops ∧ p.2.msgs.head? = some m ∧ p.2.expire = tp + timeout :=
  (reach_run maxSize timeout ops).first

/-- non-vacuity: an event of three records pushed at 10, 60 and 90 with timeout 100 expires at 110. -/
example : ((run (init 5 100) [.push ⟨1, 7, 1300⟩ 10 10, .push ⟨2, 7, 1307⟩ 60 60, .push ⟨3, 7, 1302⟩ 90 90]).1.buf.map (·.2.expire)) = [110] := by decide +kernel

/-- Close delivers every buffered event once, in buffer order, with loss accounting, and
leaves nothing buffered. -/
theorem C19_close_flushes (s : St) (hc : s.closed = false) :
    (step s .close).1.buf = [] ∧ (step s .close).1.closed = true ∧
    groupLists (step s .close).2 = s.buf.map (·.2.msgs) ∧
    lostOf (step s .close).2 = (account s.last (keys s.buf)).2 := by
  obtain ⟨hev, hb⟩ := step_close hc
  exact ⟨hb, by simp [(step_spec s .close).closed], hev ▸ groupLists_step s .close, hev ▸ lostOf_step s .close⟩

/-- Once closed, Maintain and Close return an error, deliver nothing and change nothing; and a
closed Reassembler stays closed whatever is called. -/
theorem C19_after_close (s : St) (hc : s.closed = true) :
    step s .close = (s, [Out.err]) ∧ (∀ t, step s (.maintain t) = (s, [Out.err])) ∧
    ∀ op, (step s op).1.closed = true :=
  ⟨by simp [step, hc], fun t => by simp [step, hc], fun op => by simp [(step_spec s op).closed, hc]⟩

/-- non-vacuity: with an elapsed timeout the event leaves at the next Maintain, not before. -/
example : (run (init 5 100) [.push ⟨1, 7, 1300⟩ 0 50, .maintain 100, .maintain 101]).2
    = [[], [], [.group [⟨1, 7, 1300⟩]]] := by decide +kernel

end LA.Reasm

/-! ### the code keeps nothing between calls that the model does not have -/

/-- Outside `init`, no function of the root package writes a package-level variable, hands the address of one to a function or calls a
sync/atomic method on one (regenerated list, see LA.Proofs.StateFacts): all state is in the object the model is given. -/
theorem C19_state_is_in_the_object : LA.StateFacts.ofPkg "" = [] := LA.StateFacts.ofPkg_root

/-- The time-out is measured on the clock the model assumes: there is a non-zero `time.Time` reachable from a Reassembler
that buffers one event, and every such value (read off the running library through reflection on every run, whatever the fields are called;
see harness/cmd/extract/reasmfacts.go) carries a monotonic clock reading, so a step of the wall clock between arrival
and the next call neither delays nor hastens a delivery. A deadline that went through `UTC()`, `Round`, `Truncate` or
an integer is a wall-clock reading: no history this harness can produce distinguishes it (stepping the system clock
is not something a check may do), which is why it is an obligation. The third conjunct covers the other side of the comparison: reassembler.go calls no
method on a `time.Time` that strips the reading or turns the time into a number (`clockStrips`, regenerated with
go/types), so the value the deadline is compared with carries it too. -/
theorem C19_timeout_on_the_monotonic_clock :
    LA.Gen.ReasmFacts.deadlinesMonotonic ≠ [] ∧ LA.Gen.ReasmFacts.deadlinesMonotonic.all (· == true) = true ∧
    LA.Gen.ReasmFacts.clockStrips = [] := by decide

/-- The deadlines are the only clock readings a Reassembler keeps: the Reassembler the fact above is read from buffers
exactly one event (one push, then a Maintain, so that whatever a clean-up pass might remember about when it ran has
been set), and exactly one non-zero `time.Time` is reachable from it. The model's state has one deadline per buffered
event and nothing else that depends on when something happened; a Reassembler that also remembers when it last
looked — to look less often, to batch, to rate-limit its callbacks — delivers a stale event later than the first call
after its timeout on histories whose calls are spaced just so, which a check finds only if its sleeps happen to
bracket the constant chosen. -/
theorem C19_the_deadlines_are_the_only_clock_state : LA.Gen.ReasmFacts.deadlinesMonotonic.length = 1 := by decide

/-- The model's message is the record as the Reassembler sees it — an identity, a sequence number and a record type —
and that is all the code looks at: in reassembler.go the only fields of `auparse.AuditMessage` selected are `RecordType`
and `Sequence`, and the only function outside the root package that is handed messages is the Stream's
`ReassemblyComplete` (`msgReads`, regenerated with go/types on every run). Grouping, order, completion, eviction and
loss accounting are therefore functions of (sequence, type) histories and of the clock, as in `Model.Reasm`; a
Reassembler that also consults a record's time stamp, text or parsed data — to guess at a restart of the kernel's
counter, to tell two events with one number apart — is outside that reading whatever it uses them for, and the
drivers' histories (which vary time stamps and bodies independently of the sequence numbers) search for the input on
which it shows. -/
theorem C19_reads_only_sequence_and_type :
    LA.Gen.ReasmFacts.msgReads = ["call:ReassemblyComplete", "field:RecordType", "field:Sequence"] := by rfl

/-- What the root package reads of the process it runs in is the clock (the Reassembler's deadlines, which the model is
given as readings), the process id (an input of SetPID) and the page size (the default receive buffer): `envReads`,
regenerated with go/types on every run, lists the package-level functions of os, os/user, os/exec, net, runtime,
math/rand, crypto/rand that are called, time.Now / Since / Until, file-system functions of path/filepath and process
queries of syscall. Nothing else of the machine — processors, environment variables, files, random numbers — can
influence what the Reassembler or the client does. -/
theorem C19_environment_is_clock_pid_pagesize : LA.StateFacts.envOf "" = LA.StateFacts.rootEnv := LA.StateFacts.envOf_root
