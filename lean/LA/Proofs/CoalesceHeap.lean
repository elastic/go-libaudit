/-
The heap layer.  Every heap operation of `coalesceH` stays within one relation `HFrame` (given
`cap = len` for the table slices, `HeapWF`), so whatever is read through the heap (`viewAt`,
`obsAt`, `readSlice` of a valid slice, `deref`) reads the same afterwards. The initial heap has full table slices that
read the tables (`init_wf`, `init_tables_ok`, kept by `TablesOK.mono`).
-/
import LA.Proofs.CoalesceKV
import LA.Model.CoalesceHeap

namespace LA.Coalesce

/-- the only change a message object undergoes: an empty cache is filled with the parse result. -/
def CellStep (c c' : MsgCell) : Prop :=
  c'.typ = c.typ ∧ c'.seq = c.seq ∧ c'.ts = c.ts ∧ c'.parse = c.parse ∧
  (c'.cache = c.cache ∨ (c.cache = none ∧ c'.cache = some c.parse))

theorem CellStep.refl (c : MsgCell) : CellStep c c := ⟨rfl, rfl, rfl, rfl, Or.inl rfl⟩

theorem CellStep.trans {a b c : MsgCell} (h1 : CellStep a b) (h2 : CellStep b c) : CellStep a c := by
  obtain ⟨t1, s1, x1, p1, c1⟩ := h1
  obtain ⟨t2, s2, x2, p2, c2⟩ := h2
  refine ⟨t2.trans t1, s2.trans s1, x2.trans x1, p2.trans p1, ?_⟩
  rcases c1 with c1 | ⟨c1, c1'⟩
  · rcases c2 with c2 | ⟨c2, c2'⟩
    · exact Or.inl (c2.trans c1)
    · exact Or.inr ⟨c1 ▸ c2, by rw [c2', p1]⟩
  · rcases c2 with c2 | ⟨c2, _⟩
    · exact Or.inr ⟨c1, c2.trans c1'⟩
    · rw [c1'] at c2; cases c2

theorem CellStep.obs {c c' : MsgCell} (h : CellStep c c') : obsCell c' = obsCell c := by
  obtain ⟨_, _, _, hp, hc⟩ := h
  unfold obsCell
  rcases hc with hc | ⟨hc, hc'⟩
  · rw [hc, hp]
  · rw [hc, hc']; simp

/-- what a call may do to the heap it is given: fill empty message caches, add arrays; the slice
tables stay. -/
structure HFrame (h h' : Heap) : Prop where
  len : h'.msgs.length = h.msgs.length
  cells : ∀ (i : Nat) (c : MsgCell), h.msgs[i]? = some c → ∃ c', h'.msgs[i]? = some c' ∧ CellStep c c'
  arrs : ∃ extra, h'.arrs = h.arrs ++ extra
  cat : h'.catSlices = h.catSlices
  typ : h'.typSlices = h.typSlices

theorem HFrame.refl (h : Heap) : HFrame h h :=
  ⟨rfl, fun _ c hc => ⟨c, hc, CellStep.refl c⟩, ⟨[], by simp⟩, rfl, rfl⟩

theorem HFrame.trans {a b c : Heap} (h1 : HFrame a b) (h2 : HFrame b c) : HFrame a c := by
  refine ⟨h2.len.trans h1.len, ?_, extends_trans h1.arrs h2.arrs,
    h2.cat.trans h1.cat, h2.typ.trans h1.typ⟩
  intro i c0 hc0
  obtain ⟨c1, hc1, s1⟩ := h1.cells i c0 hc0
  obtain ⟨c2, hc2, s2⟩ := h2.cells i c1 hc1
  exact ⟨c2, hc2, s1.trans s2⟩

theorem HFrame.view_eq {h h' : Heap} (hf : HFrame h h') (i : Nat) : viewAt h' i = viewAt h i := by
  unfold viewAt
  cases hc : h.msgs[i]? with
  | some c =>
    obtain ⟨c', hc', hs⟩ := hf.cells i c hc
    rw [hc']
    dsimp only
    rw [hs.obs, hs.1, hs.2.1, hs.2.2.1]
  | none =>
    have : h'.msgs[i]? = none := by
      rw [List.getElem?_eq_none_iff] at hc ⊢
      rw [hf.len]; exact hc
    rw [this]

theorem obsAt_view (h : Heap) (i : Nat) : obsAt h i = ⟨(viewAt h i).data, (viewAt h i).tags⟩ := by
  unfold viewAt obsAt
  cases h.msgs[i]? <;> rfl

theorem HFrame.obs_eq {h h' : Heap} (hf : HFrame h h') (i : Nat) : obsAt h' i = obsAt h i := by
  rw [obsAt_view, obsAt_view, hf.view_eq]

theorem dataH_hframe (h : Heap) (i : Nat) : HFrame h (dataH h i).1 := by
  unfold dataH
  cases hc : h.msgs[i]? with
  | none => exact HFrame.refl h
  | some c =>
    dsimp only
    cases hcache : c.cache with
    | some p => exact HFrame.refl h
    | none =>
      dsimp only
      have hi : i < h.msgs.length := (List.getElem?_eq_some_iff.mp hc).1
      refine ⟨by simp, ?_, ⟨[], by simp⟩, rfl, rfl⟩
      intro j cj hj
      by_cases hij : i = j
      · subst hij
        rw [hc] at hj; cases hj
        refine ⟨{ c with cache := some c.parse }, by simp [hi], rfl, rfl, rfl, rfl, Or.inr ⟨hcache, rfl⟩⟩
      · exact ⟨cj, by simp [List.getElem?_set_ne hij, hj], CellStep.refl cj⟩

theorem fill_hframe (ids : List Nat) (h : Heap) : HFrame h (fill h ids) :=
  foldl_rel HFrame HFrame.refl HFrame.trans _ dataH_hframe ids h

/-- the slice can be read in `h`. -/
def SliceValid (h : Heap) (s : Slice) : Prop := s.len = 0 ∨ s.cell < h.arrs.length

theorem SliceValid.mono {h h' : Heap} (hf : HFrame h h') {s : Slice} (hv : SliceValid h s) : SliceValid h' s := by
  obtain ⟨x, hx⟩ := hf.arrs
  rcases hv with hv | hv
  · exact Or.inl hv
  · exact Or.inr (by rw [hx, List.length_append]; omega)

theorem readSlice_frame {h h' : Heap} (hf : HFrame h h') {s : Slice} (hv : SliceValid h s) :
    readSlice h' s = readSlice h s := by
  obtain ⟨x, hx⟩ := hf.arrs
  unfold readSlice
  rcases hv with hv | hv
  · rw [hv]; simp
  · rw [hx, List.getElem?_append_left hv]

theorem nilSlice_valid (h : Heap) : SliceValid h nilSlice := Or.inl rfl

/-- the table slices are full (`cap = len`, so that `append` to one allocates: `appendSlice_spec`)
and can be read, as those the YAML decoder builds are (`C15_tables_full`, `init_wf`). -/
structure HeapWF (h : Heap) : Prop where
  catFull : ∀ s ∈ h.catSlices, s.len = s.cap
  typFull : ∀ s ∈ h.typSlices, s.len = s.cap
  catValid : ∀ s ∈ h.catSlices, SliceValid h s
  typValid : ∀ s ∈ h.typSlices, SliceValid h s

theorem HeapWF.mono {h h' : Heap} (hf : HFrame h h') (hw : HeapWF h) : HeapWF h' :=
  ⟨fun s hs => hw.catFull s (hf.cat ▸ hs), fun s hs => hw.typFull s (hf.typ ▸ hs),
   fun s hs => (hw.catValid s (hf.cat ▸ hs)).mono hf, fun s hs => (hw.typValid s (hf.typ ▸ hs)).mono hf⟩

theorem HeapWF.catAt {h : Heap} (hw : HeapWF h) (i : Nat) :
    (catSliceAt h i).len = (catSliceAt h i).cap ∧ SliceValid h (catSliceAt h i) :=
  ⟨getD_of_forall_mem (P := fun s : Slice => s.len = s.cap) hw.catFull rfl i, getD_of_forall_mem hw.catValid (nilSlice_valid h) i⟩

theorem HeapWF.typAt {h : Heap} (hw : HeapWF h) (i : Nat) :
    (typSliceAt h i).len = (typSliceAt h i).cap ∧ SliceValid h (typSliceAt h i) :=
  ⟨getD_of_forall_mem (P := fun s : Slice => s.len = s.cap) hw.typFull rfl i, getD_of_forall_mem hw.typValid (nilSlice_valid h) i⟩

theorem appendSlice_spec (h : Heap) (s : Slice) (xs : List Bytes) (hfull : s.len = s.cap) :
    HFrame h (appendSlice h s xs).1 ∧
    (SliceValid h s → SliceValid (appendSlice h s xs).1 (appendSlice h s xs).2) ∧
    readSlice (appendSlice h s xs).1 (appendSlice h s xs).2 = readSlice h s ++ xs := by
  unfold appendSlice
  by_cases hx : xs = []
  · simp only [hx, if_true]
    exact ⟨HFrame.refl h, id, by simp⟩
  · simp only [hx, if_false]
    have hlen : 0 < xs.length := List.length_pos_iff.mpr hx
    have hnot : ¬ (s.len + xs.length ≤ s.cap) := by omega
    simp only [hnot, if_false]
    refine ⟨⟨rfl, fun _ c hc => ⟨c, hc, CellStep.refl c⟩, ⟨_, rfl⟩, rfl, rfl⟩, ?_, ?_⟩
    · intro _
      right
      simp
    · unfold readSlice
      simp only [List.getElem?_append_right (Nat.le_refl _), Nat.sub_self, List.getElem?_cons_zero,
        Option.getD_some]
      exact List.take_of_length_le (Nat.le_refl _)

/-- Category (or Type) values of an event from the chosen normalisations, `rd i` being the
values of normalisation `i`: read through a heap (`catValue`, `typValue`) or taken from the
tables (`catPure`, `typPure` in `CoalesceLink`). -/
def ecsValue (rd : Nat → List Bytes) : Option (Nat × Option Nat) → List Bytes
  | none => []
  | some (ni, none) => rd ni
  | some (ni, some si) => rd ni ++ rd si

theorem ecsValue_congr {rd rd' : Nat → List Bytes} (h : ∀ i, rd' i = rd i) (nc : Option (Nat × Option Nat)) :
    ecsValue rd' nc = ecsValue rd nc := by rw [funext h]

def catValue (h : Heap) := ecsValue (fun i => readSlice h (catSliceAt h i))
def typValue (h : Heap) := ecsValue (fun i => readSlice h (typSliceAt h i))

theorem tableRead_frame {h h' : Heap} (hf : HFrame h h') (hw : HeapWF h) (i : Nat) :
    readSlice h' (catSliceAt h' i) = readSlice h (catSliceAt h i) ∧
    readSlice h' (typSliceAt h' i) = readSlice h (typSliceAt h i) := by
  unfold catSliceAt typSliceAt
  rw [hf.cat, hf.typ]
  exact ⟨readSlice_frame hf (hw.catAt i).2, readSlice_frame hf (hw.typAt i).2⟩

theorem ecsValues_frame {h h' : Heap} (hf : HFrame h h') (hw : HeapWF h) (nc : Option (Nat × Option Nat)) :
    catValue h' nc = catValue h nc ∧ typValue h' nc = typValue h nc :=
  ⟨ecsValue_congr (fun i => (tableRead_frame hf hw i).1) nc, ecsValue_congr (fun i => (tableRead_frame hf hw i).2) nc⟩

theorem ecsSlices_spec (h1 : Heap) (hw : HeapWF h1) (nc : Option (Nat × Option Nat)) :
    HFrame h1 (ecsSlices h1 nc).1 ∧
    SliceValid (ecsSlices h1 nc).1 (ecsSlices h1 nc).2.1 ∧
    SliceValid (ecsSlices h1 nc).1 (ecsSlices h1 nc).2.2 ∧
    readSlice (ecsSlices h1 nc).1 (ecsSlices h1 nc).2.1 = catValue h1 nc ∧
    readSlice (ecsSlices h1 nc).1 (ecsSlices h1 nc).2.2 = typValue h1 nc := by
  unfold ecsSlices catValue typValue ecsValue
  rcases nc with _ | ⟨ni, _ | si⟩
  · exact ⟨HFrame.refl h1, nilSlice_valid _, nilSlice_valid _, by simp [readSlice, nilSlice], by simp [readSlice, nilSlice]⟩
  · exact ⟨HFrame.refl h1, (hw.catAt ni).2, (hw.typAt ni).2, rfl, rfl⟩
  · simp only
    obtain ⟨fa, va, ra⟩ := appendSlice_spec h1 (catSliceAt h1 ni) (readSlice h1 (catSliceAt h1 si)) (hw.catAt ni).1
    generalize appendSlice h1 (catSliceAt h1 ni) (readSlice h1 (catSliceAt h1 si)) = a at fa va ra ⊢
    have hwa := hw.mono fa
    obtain ⟨fb, vb, rb⟩ :=
      appendSlice_spec a.1 (typSliceAt a.1 ni) (readSlice a.1 (typSliceAt a.1 si)) (hwa.typAt ni).1
    have hva := va (hw.catAt ni).2
    refine ⟨fa.trans fb, hva.mono fb, vb (hwa.typAt ni).2, ?_, ?_⟩
    · rw [readSlice_frame fb hva]; exact ra
    · rw [rb, (tableRead_frame fa hw ni).2, (tableRead_frame fa hw si).2]

/-- the heap a call leaves does not depend on how `coalesce` ends. -/
theorem coalesceH_eq (T : Tables) (h : Heap) (ids : List Nat) :
    coalesceH T h ids =
      (let views := ids.map (viewAt h)
       let pv := kept ids views
       let r := ecsSlices (fill h (touched pv)) (normChoice T views)
       (r.1, match coalesce T views with
         | .ok e => .ok { core := e, pathRefs := pathRefsOf pv, tagRef := tagRefOf pv, cat := r.2.1, typ := r.2.2 }
         | .err x => .err x
         | .panic => .panic)) := by
  unfold coalesceH
  dsimp only
  cases coalesce T (ids.map (viewAt h)) <;> rfl

theorem coalesceH_hframe (T : Tables) (h : Heap) (hw : HeapWF h) (ids : List Nat) :
    HFrame h (coalesceH T h ids).1 := by
  have h1 := fill_hframe (touched (kept ids (ids.map (viewAt h)))) h
  rw [coalesceH_eq]
  exact h1.trans (ecsSlices_spec _ (hw.mono h1) _).1

def derefO (h : Heap) : Outcome EventH → Outcome Event
  | .ok eh => .ok (deref h eh)
  | .err x => .err x
  | .panic => .panic

/-- an event whose slices can be read in `h` (true of every event `coalesceH` returned, see
`C15_returned_valid`). -/
def EventValid (h : Heap) (eh : EventH) : Prop := SliceValid h eh.cat ∧ SliceValid h eh.typ

theorem deref_frame {h h' : Heap} (hf : HFrame h h') {eh : EventH} (hv : EventValid h eh) :
    deref h' eh = deref h eh := by
  have ho : obsAt h' = obsAt h := funext hf.obs_eq
  unfold deref tagsRead
  rw [readSlice_frame hf hv.1, readSlice_frame hf hv.2, ho]

theorem initArrs_length (l : List Norm) : (initArrs l).length = 2 * l.length := by
  induction l with
  | nil => rfl
  | cons n r ih =>
    simp only [initArrs, List.length_cons, ih]
    omega

/-- the two slice tables of `Heap.init` are the same recursion; as a `zipIdx` map its entries
are read with the list library. -/
theorem initSlices_eq {f : Nat → List Norm → List Slice} {g : Nat → Norm → Slice}
    (hnil : ∀ i, f i [] = []) (hcons : ∀ i n r, f i (n :: r) = g i n :: f (i + 1) r) (i : Nat) (l : List Norm) :
    f i l = (l.zipIdx i).map (fun p => g p.2 p.1) := by
  induction l generalizing i with
  | nil => exact hnil i
  | cons n r ih => rw [hcons, ih, List.zipIdx_cons, List.map_cons]

theorem initCatSlices_eq (i : Nat) (l : List Norm) : initCatSlices i l =
    (l.zipIdx i).map (fun p => (⟨2 * p.2, p.1.ecsCategory.length, p.1.catCap⟩ : Slice)) :=
  initSlices_eq (f := initCatSlices) (g := fun j n => ⟨2 * j, n.ecsCategory.length, n.catCap⟩)
    (fun _ => rfl) (fun _ _ _ => rfl) i l

theorem initTypSlices_eq (i : Nat) (l : List Norm) : initTypSlices i l =
    (l.zipIdx i).map (fun p => (⟨2 * p.2 + 1, p.1.ecsType.length, p.1.typCap⟩ : Slice)) :=
  initSlices_eq (f := initTypSlices) (g := fun j n => ⟨2 * j + 1, n.ecsType.length, n.typCap⟩)
    (fun _ => rfl) (fun _ _ _ => rfl) i l

theorem init_wf (T : Tables)
    (hfull : ∀ n ∈ T.norms, n.catCap = n.ecsCategory.length ∧ n.typCap = n.ecsType.length) :
    HeapWF (Heap.init T) := by
  have key : ∀ s, s ∈ initCatSlices 0 T.norms ∨ s ∈ initTypSlices 0 T.norms →
      s.len = s.cap ∧ s.cell < (initArrs T.norms).length := by
    rw [initCatSlices_eq, initTypSlices_eq, initArrs_length]
    rintro s (hs | hs) <;> obtain ⟨⟨n, j⟩, hm, rfl⟩ := List.mem_map.mp hs <;> have hj := List.mem_zipIdx hm
    · exact ⟨(hfull n (hj.2.2 ▸ List.getElem_mem _)).1.symm, by simp only; omega⟩
    · exact ⟨(hfull n (hj.2.2 ▸ List.getElem_mem _)).2.symm, by simp only; omega⟩
  exact ⟨fun s hs => (key s (Or.inl hs)).1, fun s hs => (key s (Or.inr hs)).1,
    fun s hs => Or.inr (key s (Or.inl hs)).2, fun s hs => Or.inr (key s (Or.inr hs)).2⟩

/-- reading a table slice through the heap gives the normalisation's values. -/
def TablesOK (T : Tables) (h : Heap) : Prop :=
  ∀ i, readSlice h (catSliceAt h i) = (normAt T i).ecsCategory ∧
       readSlice h (typSliceAt h i) = (normAt T i).ecsType

theorem TablesOK.mono {T : Tables} {h h' : Heap} (hf : HFrame h h') (hw : HeapWF h) (ht : TablesOK T h) :
    TablesOK T h' := by
  intro i
  rw [(tableRead_frame hf hw i).1, (tableRead_frame hf hw i).2]
  exact ht i

theorem initArrs_get (l : List Norm) (i : Nat) :
    (initArrs l)[2 * i]? = (l[i]?).map (fun n => pad n.ecsCategory n.catCap) ∧
    (initArrs l)[2 * i + 1]? = (l[i]?).map (fun n => pad n.ecsType n.typCap) := by
  induction l generalizing i with
  | nil => exact ⟨rfl, rfl⟩
  | cons n r ih =>
    cases i with
    | zero => exact ⟨rfl, rfl⟩
    -- arrays `2(i+1)` and `2(i+1)+1` of `n :: r` are arrays `2i` and `2i+1` of `r`, by unfolding
    | succ i => exact ih i

theorem take_pad (l : List Bytes) (cap : Nat) : (pad l cap).take l.length = l := by
  unfold pad
  simp

theorem init_tables_ok (T : Tables) : TablesOK T (Heap.init T) := by
  intro i
  unfold catSliceAt typSliceAt readSlice normAt Heap.init
  dsimp only
  rw [initCatSlices_eq, initTypSlices_eq, List.getElem?_map, List.getElem?_map, List.getElem?_zipIdx]
  cases hn : T.norms[i]? with
  | none => exact ⟨rfl, rfl⟩
  | some n =>
    simp only [Option.map_some, Option.getD_some, Nat.zero_add]
    rw [(initArrs_get T.norms i).1, (initArrs_get T.norms i).2, hn]
    exact ⟨take_pad _ _, take_pad _ _⟩

theorem newMsg_hframe (h : Heap) (v : View) : HFrame { (h.newMsg v).1 with msgs := h.msgs } h := HFrame.refl h

theorem newMsg_wf {h : Heap} (hw : HeapWF h) (v : View) : HeapWF (h.newMsg v).1 :=
  ⟨hw.catFull, hw.typFull, hw.catValid, hw.typValid⟩

end LA.Coalesce
