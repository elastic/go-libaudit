/-
C14 — Rule flag parsing accounts for every token or rejects the line.
`shellquote.Split` is outside the model (the harness tokenises with the real library).
-/
import LA.Proofs.FlagsLine
import LA.Proofs.StateObligations.Rule

namespace LA.Flags
open LA LA.Rule

/-- the common head of the -F and -C patterns; `o ++ r` is the operator and what follows it. -/
theorem head_split {v o r : Bytes} (hl : ¬ (v.takeWhile isReWord).isEmpty = true)
    (hr : (v.drop (v.takeWhile isReWord).length).dropWhile isReSpace = o ++ r) :
    ∃ ws, v = v.takeWhile isReWord ++ ws ++ o ++ r ∧ (∀ b ∈ ws, isReSpace b = true) ∧ v.takeWhile isReWord ≠ [] ∧
      ∀ b ∈ v.takeWhile isReWord, isReWord b = true := by
  refine ⟨(v.drop (v.takeWhile isReWord).length).takeWhile isReSpace, ?_, List.all_eq_true.mp List.all_takeWhile, ?_,
    List.all_eq_true.mp List.all_takeWhile⟩
  · rw [List.append_assoc, List.append_assoc, ← hr, List.takeWhile_append_dropWhile, drop_takeWhile_length,
      List.takeWhile_append_dropWhile]
  · intro hh; simp [hh] at hl

/-- -F: if the argument is accepted, the field, operator and value returned are the complete
text: arg = field ++ spaces ++ operator ++ value, nothing before, between or after is dropped;
the field is a non-empty run of word characters, the operator one of the eight, the value
non-empty (and may contain anything, spaces included). -/
theorem C14_filter_complete (v lhs op rhs : Bytes) (h : matchFilter v = some (lhs, op, rhs)) :
    ∃ ws, v = lhs ++ ws ++ op ++ rhs ∧ (∀ b ∈ ws, isReSpace b = true) ∧ lhs ≠ [] ∧
      (∀ b ∈ lhs, isReWord b = true) ∧ op ∈ filterOps ∧ rhs ≠ [] := by
  unfold matchFilter at h
  simp only at h
  obtain ⟨hl, h⟩ := Option.ite_none_left_eq_some.mp h
  generalize hr1 : (v.drop (v.takeWhile isReWord).length).dropWhile isReSpace = r1 at h
  split at h
  · rename_i o hf
    cases h
    have hp := List.find?_some hf
    simp only [Bool.and_eq_true, Bool.not_eq_true', hasPrefix] at hp
    -- the operator is a prefix of what follows the spaces, the value is the rest
    obtain ⟨t, rfl⟩ := List.isPrefixOf_iff_prefix.mp hp.1
    rw [List.drop_left] at hp ⊢
    obtain ⟨ws, e, h1, h2, h3⟩ := head_split hl hr1
    exact ⟨ws, e, h1, h2, h3, List.mem_of_find?_eq_some hf, by intro hh; simp [hh] at hp⟩
  · cases h

/-- -C: likewise the whole argument is field (=|!=) field with nothing else. -/
theorem C14_comparison_complete (v lhs op rhs : Bytes) (h : matchComparison v = some (lhs, op, rhs)) :
    ∃ ws, v = lhs ++ ws ++ op ++ rhs ∧ (∀ b ∈ ws, isReSpace b = true) ∧ lhs ≠ [] ∧
      (∀ b ∈ lhs, isReWord b = true) ∧ (op = [61] ∨ op = [33, 61]) ∧ rhs ≠ [] ∧ (∀ b ∈ rhs, isReWord b = true) := by
  unfold matchComparison at h
  simp only at h
  obtain ⟨hl, h⟩ := Option.ite_none_left_eq_some.mp h
  generalize hr1 : (v.drop (v.takeWhile isReWord).length).dropWhile isReSpace = r1 at h
  -- the operator found and what follows it, whichever of the two it is
  obtain ⟨o, r2, hr, ho, hh⟩ : ∃ o r2 : Bytes, r1 = o ++ r2 ∧ (o = [61] ∨ o = [33, 61]) ∧
      (if o.isEmpty then none else if r2.isEmpty || !(r2.all isReWord) then none
        else some (v.takeWhile isReWord, o, r2)) = some (lhs, op, rhs) := by
    split at h
    · exact ⟨[33, 61], _, rfl, Or.inr rfl, h⟩
    · exact ⟨[61], _, rfl, Or.inl rfl, h⟩
    · cases h
  obtain ⟨-, hh⟩ := Option.ite_none_left_eq_some.mp hh
  obtain ⟨hc, hh⟩ := Option.ite_none_left_eq_some.mp hh
  cases hh
  simp only [Bool.or_eq_true, Bool.not_eq_true', not_or, Bool.not_eq_true, Bool.not_eq_false] at hc
  obtain ⟨ws, e, h1, h2, h3⟩ := head_split hl (hr1.trans hr)
  exact ⟨ws, e, h1, h2, h3, ho, by intro hh; simp [hh] at hc, List.all_eq_true.mp hc.2⟩

/-- -S / -k: the comma-separated items, each trimmed, in order — none dropped. -/
theorem C14_list_items (value : Bytes) : (splitList value).length = (splitByte 44 value).length ∧
    splitList value = (splitByte 44 value).map trimSpace := by
  simp [splitList]

/-- Mixing delete, watch and syscall-rule flags, or giving none of them, is rejected; a syscall
rule needs exactly one of -a / -A. -/
theorem C14_exclusive (fs : FS) (r : Rule) (h : finish fs = some r) :
    ((fs.visited.contains 68 && !(fs.visited.any (fun n => n == 119 || n == 112)) &&
        !(fs.visited.any (fun n => n == 97 || n == 65 || n == 67 || n == 70 || n == 83))) ||
     (!(fs.visited.contains 68) && fs.visited.any (fun n => n == 119 || n == 112) &&
        !(fs.visited.any (fun n => n == 97 || n == 65 || n == 67 || n == 70 || n == 83))) ||
     (!(fs.visited.contains 68) && !(fs.visited.any (fun n => n == 119 || n == 112)) &&
        fs.visited.any (fun n => n == 97 || n == 65 || n == 67 || n == 70 || n == 83))) = true ∧
    (fs.visited.any (fun n => n == 97 || n == 65 || n == 67 || n == 70 || n == 83) = true →
      (fs.prepend.isSome != fs.append.isSome) = true) := by
  unfold finish at h
  simp only at h
  generalize fs.visited.contains 68 = del at h ⊢
  generalize (fs.visited.any fun n => n == 119 || n == 112) = watch at h ⊢
  generalize (fs.visited.any fun n => n == 97 || n == 65 || n == 67 || n == 70 || n == 83) = sys at h ⊢
  -- `finish` returns none unless exactly one of the three is set
  obtain ⟨hone, h⟩ := Option.ite_none_left_eq_some.mp h
  refine ⟨?_, fun hs => ?_⟩
  · revert hone; cases del <;> cases watch <;> cases sys <;> decide
  · subst hs
    have hd : del = false ∧ watch = false := by revert hone; cases del <;> cases watch <;> decide
    -- a syscall rule, then: `finish` succeeds on exactly one of -A and -a
    simp only [hd.1, hd.2, Bool.false_eq_true, if_false] at h
    cases hp : fs.prepend <;> cases ha : fs.append <;> simp [hp, ha] at h ⊢

/-- a flag counts by having been given, not by what its value left behind: a `-w` or `-p` whose value is the empty
word still makes a delete-all or a syscall line a mixed one (the class is decided over the flags *visited*). -/
example : parseArgs [ofString "-D", ofString "-p", []] = none ∧
    parseArgs [ofString "-a", ofString "always,exit", ofString "-S", ofString "open", ofString "-w", []] = none := by
  repeat rw [ofString_ofList]
  decide +kernel

/-- A repeated -w, -a or -A is an error (no occurrence is silently overridden). -/
theorem C14_single_valued (fs : FS) (value : Bytes) :
    (fs.pathSet = true → setFlag fs 119 value = none) ∧
    (fs.append.isSome = true → setFlag fs 97 value = none) ∧
    (fs.prepend.isSome = true → setFlag fs 65 value = none) := by
  refine ⟨?_, ?_, ?_⟩
  · intro h; simp [setFlag, h]
  · intro h
    obtain ⟨p, ha⟩ := Option.isSome_iff_exists.mp h
    simp [setFlag, setAdd, ha]
  · intro h
    obtain ⟨p, ha⟩ := Option.isSome_iff_exists.mp h
    simp [setFlag, setAdd, ha]

/-- No argument or trailing word is silently ignored: if flags.Parse returns a rule, the flag
loop consumed every token (no positional word was left). -/
theorem C14_no_positional (args : List Bytes) (r : Rule) (h : parseArgs args = some r) :
    ∃ fs, parseLoop (args.length + 1) args {} = some (fs, 0) ∧ finish fs = some r := by
  unfold parseArgs at h
  split at h
  · cases h
  · rename_i fs n hp
    obtain ⟨hn, h⟩ := Option.ite_none_left_eq_some.mp h
    exact ⟨fs, by rw [hp, show n = 0 by omega], h⟩

/-- a stray word (anything not starting with '-' or shorter than two bytes) stops the flag loop
and is counted as positional, hence the line is rejected. -/
theorem C14_stray_word_rejected (w : Bytes) (rest : List Bytes)
    (hw : ∀ c tl, w ≠ 45 :: c :: tl) : parseArgs (w :: rest) = none := by
  unfold parseArgs
  have hc : classify w = .nonflag := by
    unfold classify
    split
    · rename_i c tl; exact absurd rfl (hw c tl)
    · rfl
  have : parseLoop ((w :: rest).length + 1) (w :: rest) {} = some ({}, (w :: rest).length) := by
    simp only [List.length_cons, parseLoop, hc]
  rw [this]
  simp

/-- Accounting over the whole line: however the flag loop ends, the number of filters it has produced equals
the number of -F and -C occurrences it has visited: each contributes exactly one filter, none is dropped
and none is invented. -/
theorem C14_one_filter_per_flag (args : List Bytes) (fs : FS) (n : Nat)
    (h : parseLoop (args.length + 1) args {} = some (fs, n)) :
    fs.filters.length = nFC fs.visited := by
  obtain ⟨its, ha, _⟩ := parseLoop_items _ _ _ _ _ h
  obtain ⟨-, -, c3, -, -, c6⟩ := applyItems_content its {} fs ha
  rw [c6, c3]
  simp [nFC]

/-- The whole line is reflected. If flags.Parse accepts the tokens, then the token list reads, with
no token left over, as a list of flag occurrences (`Reads`: each token is a flag with an inline value,
a flag followed by the token that is its value, a `-D`, or the final `--`), and the rule is built
from a flag set in which
* the syscalls are the comma-separated items of all `-S` values, in order, and the keys those of all
  `-k` values;
* the filters are exactly one per `-F` / `-C` occurrence, in order, each made of the complete text
  before, at and after the operator (`C14_filter_complete`, `C14_comparison_complete`);
* the permissions are the letters of all `-p` values, in order, each one of r, w, x, a;
* there is at most one `-w`, one `-a` and one `-A` occurrence, and the path, the list and the action
  are read from its complete value.
Nothing else contributes and no occurrence is dropped. -/
theorem C14_whole_line (args : List Bytes) (rule : Rule) (h : parseArgs args = some rule) :
    ∃ (its : List Item) (fs : FS),
      Reads args its ∧ applyItems its {} = some fs ∧ finish fs = some rule ∧
      fs.syscalls = its.flatMap Item.syscalls ∧ fs.keys = its.flatMap Item.keys ∧
      fs.filters = its.flatMap Item.filters ∧ fs.perms = its.flatMap Item.perms ∧
      (∀ it ∈ its, it.Ok) ∧
      ((its.filterMap Item.wval = [] ∧ fs.pathSet = false) ∨ (∃ v, its.filterMap Item.wval = [v] ∧ fs.path = v)) ∧
      ((its.filterMap Item.aval = [] ∧ fs.append = none) ∨
        (∃ v, its.filterMap Item.aval = [v] ∧ fs.append = setAdd none v ∧ fs.append.isSome = true)) ∧
      ((its.filterMap Item.pval = [] ∧ fs.prepend = none) ∨
        (∃ v, its.filterMap Item.pval = [v] ∧ fs.prepend = setAdd none v ∧ fs.prepend.isSome = true)) := by
  obtain ⟨fs, hp, hf⟩ := C14_no_positional args rule h
  obtain ⟨its, ha, hr⟩ := parseLoop_items _ _ _ _ _ hp
  obtain ⟨c1, c2, c3, c4, c5, -⟩ := applyItems_content its {} fs ha
  refine ⟨its, fs, hr rfl, ha, hf, by simpa using c1, by simpa using c2, by simpa using c3, by simpa using c4, c5, ?_, ?_, ?_⟩
  · rcases (applyItems_slot pathSlot Item.wval some (fun fs it fs1 h1 => (applyItem_slots h1).1) its {} fs ha).2 rfl with
      ⟨e1, e2⟩ | ⟨v, e1, e2, _⟩
    · exact Or.inl ⟨e1, by cases hp : fs.pathSet <;> simp [pathSlot, hp] at e2 ⊢⟩
    · exact Or.inr ⟨v, e1, Option.some.inj (Option.ite_none_right_eq_some.mp e2).2⟩
  · exact (applyItems_slot FS.append Item.aval (setAdd none) (fun fs it fs1 h1 => (applyItem_slots h1).2.1) its {} fs ha).2 rfl
  · exact (applyItems_slot FS.prepend Item.pval (setAdd none) (fun fs it fs1 h1 => (applyItem_slots h1).2.2) its {} fs ha).2 rfl

/-- non-vacuity of `C14_whole_line`: an accepted line with every kind of occurrence. -/
example : (parseArgs [ofString "-a", ofString "always,exit", ofString "-S", ofString "open, close", ofString "-F",
    ofString "auid>=1000", ofString "-C", ofString "uid!=euid", ofString "-k=a,b", ofString "--"]).isSome = true := by
  repeat rw [ofString_ofList]
  decide +kernel

/-- non-vacuity: a line that is accepted, and the same line with a stray word. -/
example : (parseArgs [ofString "-w", ofString "/etc/passwd", ofString "-p", ofString "r"]).isSome = true ∧
    parseArgs [ofString "-w", ofString "/etc/passwd", ofString "extra", ofString "-p", ofString "r"] = none := by
  decide +kernel

end LA.Flags

/-- Packages rule and rule/flags write package-level variables only in the five table builders, which nothing but `init`
mentions (regenerated list, see LA.Proofs.StateFacts): Parse, Build and ToCommandLine are functions of their arguments. -/
theorem C14_rule_packages_keep_nothing_between_calls : LA.StateFacts.ofPkg "rule" = LA.StateFacts.ruleTableBuilders ∧ LA.StateFacts.ofPkg "rule/flags" = [] := ⟨LA.StateFacts.ofPkg_rule, LA.StateFacts.ofPkg_ruleflags⟩

/-- What the rule packages read of the process they run in is what the model is given as `Env`: the file type of a
watched path (os.Stat) and the user and group databases; package flags reads nothing (`envReads`, regenerated with
go/types on every run: package-level functions of os, os/user, os/exec, net, runtime, math/rand, crypto/rand,
time.Now / Since / Until, file-system functions of path/filepath, process queries of syscall). -/
theorem C14_environment_is_stat_and_the_id_databases :
    LA.StateFacts.envOf "rule" = LA.StateFacts.ruleEnv ∧ LA.StateFacts.envOf "rule/flags" = [] := ⟨LA.StateFacts.envOf_rule, LA.StateFacts.envOf_ruleflags⟩
