/-
Lemmas about Base/Num: what the decimal printer emits is read back, text that starts with a non-digit is a syntax
error, and an accepted value is within its bit size. `parseUintGo`, `parseIntGo` and `atoiGo` answer a `NumRes` (a value,
a syntax error or a range error) and are the strconv of the rule encoder (Model/Rule), which falls back to a name lookup
on a syntax error only. The parser and the coalescer use `parseUint` (Base/Ascii), the parser also `parseInt` (Base/Str);
both answer an `Option`.
-/
import LA.Base.Num
import LA.Proofs.Str

namespace LA

theorem digitLoop_digit {base M b : Nat} {b0 : Bool} (hb : isDigit b = true) (hbase : 10 ≤ base) (s : Bytes) (acc : Nat)
    (us : Bool) : digitLoop base M b0 (b :: s) acc us =
      if acc * base + (b - 48) > M then (.range, us) else digitLoop base M b0 s (acc * base + (b - 48)) us := by
  have hb' : 48 ≤ b ∧ b ≤ 57 := by simpa [isDigit] using hb
  have h95 : (b == 95 && b0) = false := by
    rw [Bool.and_eq_false_iff, beq_eq_false_iff_ne]
    exact Or.inl (by omega)
  rw [digitLoop, h95, if_neg Bool.false_ne_true, digitVal, if_pos hb']
  simp only
  rw [if_neg (by omega)]

theorem digitVal_nondigit {c d : Nat} (hc : ¬(48 ≤ c ∧ c ≤ 57)) (h : digitVal c = some d) : d ≥ 10 := by
  unfold digitVal at h
  rw [if_neg hc] at h
  split at h
  · cases h; omega   -- a letter
  · cases h

theorem digitLoop_nondigit {c : Nat} {b0 : Bool} (hc : ¬(48 ≤ c ∧ c ≤ 57)) (hu : b0 = true → c ≠ 95) (M : Nat) (tl : Bytes)
    (acc : Nat) (us : Bool) : digitLoop 10 M b0 (c :: tl) acc us = (.syntax, us) := by
  have h95 : (c == 95 && b0) = false := by
    cases b0 with
    | false => exact Bool.and_false _
    | true => simpa using hu rfl
  rw [digitLoop, h95, if_neg Bool.false_ne_true]
  cases hd : digitVal c with
  | none => rfl
  | some d => simp only [digitVal_nondigit hc hd, if_true]

theorem digitLoop_dec {s : Bytes} {a v M : Nat} {b0 us : Bool} (hd : ∀ b ∈ s, isDigit b = true)
    (h : parseDigits s a = some v) (hv : v ≤ M) :
    digitLoop 10 M b0 s a us = (.ok v, us) := by
  induction s generalizing a with
  | nil => cases h; rfl
  | cons b bs ih =>
    have hb := hd b List.mem_cons_self
    rw [parseDigits, if_pos hb] at h
    rw [digitLoop_digit hb (Nat.le_refl _), if_neg (by have := parseDigits_acc_le h; omega)]
    exact ih (fun x hx => hd x (List.mem_cons_of_mem _ hx)) h

theorem parseUintGo_dec10 (n bits : Nat) (h : n ≤ 2 ^ bits - 1) : parseUintGo (dec n) 10 bits = .ok n := by
  rw [parseUintGo, if_neg (by simpa using dec_ne_nil n)]
  simp only
  rw [if_neg (by decide), digitLoop_dec (dec_digits n) (parseDigits_dec n) h]

theorem basePrefix_of_ne {d : Nat} {tl : Bytes} (h : d ≠ 48) : basePrefix (d :: tl) = (10, d :: tl) := by
  unfold basePrefix
  split
  next p rest e => exact absurd (List.cons.inj e).1 h
  next rest _ e => exact absurd (List.cons.inj e).1 h
  next => rfl

theorem parseUintGo_dec0 (n bits : Nat) (h : n ≤ 2 ^ bits - 1) : parseUintGo (dec n) 0 bits = .ok n := by
  by_cases hz : n = 0
  · subst hz
    rw [dec, dif_pos (by decide)]
    rfl
  · obtain ⟨d, tl, hd, -, hne⟩ := dec_head n
    have hl := digitLoop_dec (b0 := true) (us := false) (dec_digits n) (parseDigits_dec n) h
    rw [hd] at hl
    rw [parseUintGo, hd, List.isEmpty_cons, if_neg Bool.false_ne_true]
    simp only [beq_self_eq_true, if_true, basePrefix_of_ne (hne (by omega)), hl]
    rfl

theorem splitSign_digit {d : Nat} {tl : Bytes} (h : 48 ≤ d ∧ d ≤ 57) : splitSign (d :: tl) = (false, d :: tl) :=
  splitSign_of_ne (by omega) (by omega)

theorem dec_cons_digit (v : Nat) : ∃ d tl, dec v = d :: tl ∧ 48 ≤ d ∧ d ≤ 57 := by
  obtain ⟨d, tl, h, hd, -⟩ := dec_head v
  exact ⟨d, tl, h, by simpa [isDigit] using hd⟩

/-- ParseInt reads a printed decimal as ParseUint does, when it is below the signed bound. -/
theorem parseIntGo_dec {n base bits : Nat} (hp : parseUintGo (dec n) base bits = .ok n) (hn : (n : Int) < 2 ^ (bits - 1)) :
    parseIntGo (dec n) base bits = .ok (n : Int) := by
  obtain ⟨d, tl, hd, hdig⟩ := dec_cons_digit n
  rw [hd] at hp ⊢
  rw [parseIntGo, List.isEmpty_cons, if_neg Bool.false_ne_true]
  simp only [splitSign_digit hdig, hp, Bool.not_false, Bool.true_and, Bool.false_and, decide_eq_true_eq, Int.not_le.mpr hn,
    Bool.false_eq_true, if_false]

/-- `0 32` here, in `parseIntGo_dec_neg` and in `parseIntGo_minus_name`: getExitCode reads its argument with
`strconv.ParseInt(exit, 0, 32)`. -/
theorem parseIntGo_dec_pos (v : Nat) (h : v < 2147483648) : parseIntGo (dec v) 0 32 = .ok (v : Int) :=
  parseIntGo_dec (parseUintGo_dec0 v 32 (by omega)) (by omega)

theorem parseIntGo_dec_neg (m : Nat) (h : m ≤ 2147483648) : parseIntGo (45 :: dec m) 0 32 = .ok (-(m : Int)) := by
  unfold parseIntGo
  have hp := parseUintGo_dec0 m 32 (by omega)
  simp only [List.isEmpty_cons, Bool.false_eq_true, if_false, splitSign, hp]
  simp
  omega

/-- why names and numbers do not collide in the text form. -/
theorem parseUintGo_nondigit (c : Nat) (tl : Bytes) (base bits : Nat) (hb : base = 0 ∨ base = 10)
    (hc : ¬(48 ≤ c ∧ c ≤ 57)) (hu : base = 0 → c ≠ 95) : parseUintGo (c :: tl) base bits = .syntax := by
  unfold parseUintGo
  rcases hb with rfl | rfl
  · simp only [List.isEmpty_cons, Bool.false_eq_true, if_false, beq_self_eq_true, if_true,
      basePrefix_of_ne (tl := tl) (show c ≠ 48 by omega), digitLoop_nondigit hc (fun _ => hu rfl)]
  · simp only [List.isEmpty_cons, Bool.false_eq_true, if_false, show ((10 : Nat) == 0) = false from rfl,
      digitLoop_nondigit (b0 := false) hc nofun]

/-- so getExitCode falls through to the errno table. -/
theorem parseIntGo_minus_name (c : Nat) (tl : Bytes) (hc : 65 ≤ c ∧ c ≤ 90) : parseIntGo (45 :: c :: tl) 0 32 = .syntax := by
  simp only [parseIntGo, List.isEmpty_cons, Bool.false_eq_true, if_false, splitSign,
    parseUintGo_nondigit c tl 0 32 (Or.inl rfl) (by omega) (by omega)]

theorem atoiGo_word (c : Nat) (tl : Bytes) (hc : 58 ≤ c) : atoiGo (c :: tl) = .syntax := by
  simp only [atoiGo, parseIntGo, List.isEmpty_cons, Bool.false_eq_true, if_false,
    splitSign_of_ne (tl := tl) (show c ≠ 43 by omega) (show c ≠ 45 by omega),
    parseUintGo_nondigit c tl 10 64 (Or.inr rfl) (by omega) (fun h => by cases h)]

/-- `2048` is the number of syscall bits in a rule (64 words of 32), the bound its caller has; the proof needs `n < 2 ^ 63`
only. -/
theorem atoiGo_dec (n : Nat) (h : n < 2048) : atoiGo (dec n) = .ok (n : Int) :=
  parseIntGo_dec (parseUintGo_dec10 n 64 (by omega)) (by omega)

theorem digitLoop_bound {base M : Nat} {b0 : Bool} {s : Bytes} {acc : Nat} {us : Bool} {v : Int}
    (h : (digitLoop base M b0 s acc us).1 = .ok v) (hacc : acc ≤ M) : 0 ≤ v ∧ v ≤ M := by
  fun_induction digitLoop base M b0 s acc us with
  | case1 acc us => cases h; omega              -- end of input: the accumulator
  | case2 b bs acc us _ ih => exact ih h hacc   -- an underscore is skipped
  | case3 | case4 | case5 => cases h            -- not a digit; not one of the base; over `M`
  | case6 b bs acc us _ d _ _ hle ih => exact ih h (by omega)

theorem parseUintGo_bound {s : Bytes} {base bits : Nat} {v : Int} (h : parseUintGo s base bits = .ok v) :
    0 ≤ v ∧ v ≤ ((2 ^ bits - 1 : Nat) : Int) := by
  -- an `ok` is the answer of a digit loop started at 0 (cases 3 and 5: base 0, base 10); the other branches are errors
  revert h
  fun_cases parseUintGo s base bits with
  | case1 | case2 => nofun
  | case3 _ _ _ _ _ w hw => exact fun h => NumRes.ok.inj h ▸ digitLoop_bound hw (Nat.zero_le _)
  | case4 _ _ _ _ _ hne => exact fun h => absurd h (hne v)
  | case5 => exact fun h => digitLoop_bound h (Nat.zero_le _)

theorem toU32_lt (x : Int) : toU32 x < 4294967296 := by
  unfold toU32; omega

end LA
