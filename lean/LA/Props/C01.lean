/-
C01 — Reassembler delivers every pushed record exactly once, grouped by sequence.
All statements quantify over every configuration (maxInFlight, timeout), every
clock and every operation list of any length.
-/
import LA.Proofs.Reasm
import LA.Proofs.StateObligations.Root
import LA.Gen.ReasmFacts

namespace LA.Reasm

/-- Nothing is lost, duplicated or invented, at any point of any history:
the messages delivered so far together with the buffered ones are a permutation
of the non-EOE messages pushed so far. -/
theorem C01_conservation (maxSize timeout : Int) (ops : List Op) :
    (delivered (run (init maxSize timeout) ops).2 ++ allMsgs (run (init maxSize timeout) ops).1.buf).Perm
      (pushed ops) := by
  simpa [init] using run_conserve (init maxSize timeout) ops

def noClose (ops : List Op) : Prop := ∀ op ∈ ops, op ≠ Op.close

theorem closed_run_noClose {s : St} {ops : List Op} (h : noClose ops) : (run s ops).1.closed = s.closed := by
  induction ops generalizing s with
  | nil => rfl
  | cons op ops ih =>
    have hop := h op (List.mem_cons_self ..)
    rw [run, ih fun o ho => h o (List.mem_cons_of_mem _ ho), (step_spec s op).closed]
    simp [hop]

/-- Exactly once: after any series of pushes/Maintain calls followed by Close, the
delivered messages are a permutation of the pushed non-EOE messages and nothing
stays buffered. -/
theorem C01_exactly_once (maxSize timeout : Int) (ops : List Op) (h : noClose ops) :
    (delivered (run (init maxSize timeout) (ops ++ [Op.close])).2).Perm (pushed ops) ∧
    (run (init maxSize timeout) (ops ++ [Op.close])).1.buf = [] := by
  have hc : (run (init maxSize timeout) ops).1.closed = false := closed_run_noClose h
  have hb : (run (init maxSize timeout) (ops ++ [Op.close])).1.buf = [] := by
    rw [run_append]; exact (step_close hc).2
  refine ⟨?_, hb⟩
  have := C01_conservation maxSize timeout (ops ++ [Op.close])
  rw [hb] at this
  simpa [pushed, pushedOf] using this

/-- Consequently, if the pushed messages are pairwise distinct, no message is delivered twice. -/
theorem C01_no_duplicates (maxSize timeout : Int) (ops : List Op) (h : noClose ops)
    (hd : (pushed ops).Nodup) :
    (delivered (run (init maxSize timeout) (ops ++ [Op.close])).2).Nodup :=
  (C01_exactly_once maxSize timeout ops h).1.nodup_iff.mpr hd

/-- Every group delivered by any call of any history carries a single sequence number,
and is never empty. -/
theorem C01_group_uniform (maxSize timeout : Int) (ops : List Op) :
    ∀ outs ∈ (run (init maxSize timeout) ops).2, ∀ g ∈ groupLists outs,
      g ≠ [] ∧ ∃ seq, ∀ m ∈ g, m.seq = seq := by
  intro outs ho g hg
  obtain ⟨_, r, p, hp, rfl⟩ := group_of_run ho hg
  exact ⟨r.inv.nonempty p hp, p.1, r.inv.uniform p hp⟩

/-- Messages inside a group appear in the order they were pushed: every delivered group
is a subsequence of the push sequence. -/
theorem C01_group_order (maxSize timeout : Int) (ops : List Op) :
    ∀ outs ∈ (run (init maxSize timeout) ops).2, ∀ g ∈ groupLists outs, g.Sublist (pushed ops) := by
  intro outs ho g hg
  obtain ⟨_, r, p, hp, rfl⟩ := group_of_run ho hg
  exact r.order p hp

/-- Records of one event that arrive while that event is still buffered join it: if a
message with the same sequence is buffered when `m` is pushed, then after `Put` one
event holds both. -/
theorem C01_no_split {s : St} (hs : Inv s) (m m' : Msg) (t : Int) (hm : (m.typ == EOE) = false)
    (hb : m' ∈ allMsgs s.buf) (hseq : m'.seq = m.seq) :
    ∃ p ∈ (put s m t).buf, m' ∈ p.2.msgs ∧ m ∈ p.2.msgs := by
  obtain ⟨p', hp', hm'⟩ := List.mem_flatMap.mp hb
  have hk : p'.1 = m.seq := by rw [← hs.uniform p' hp' m' hm', hseq]
  rcases put_hit s t (ne_of_beq_false hm) with ⟨hno, _⟩ | ⟨e, he, hput⟩
  · exact absurd (hk ▸ mem_keys_of_mem hp') hno
  · obtain rfl : p' = (m.seq, e) := event_unique hs.nodup hp' he hk
    exact ⟨_, hput, by simp [hm'], by simp⟩

/-- No split, at the level of whole histories: take any reachable state (any history `ops`), a
buffered message `m'` and a push of a non-EOE message `m` with the same sequence number. Then
(1) every group this very call delivers contains both or neither, and (2) every event still
buffered after the call contains both or neither. Together with `C01_no_split` (one event holds
both) and exactly-once delivery, the two records can never end up in different callbacks. -/
theorem C01_no_split_trace (maxSize timeout : Int) (ops : List Op) (m m' : Msg) (tp tc : Int)
    (hm : (m.typ == EOE) = false)
    (hb : m' ∈ allMsgs (run (init maxSize timeout) ops).1.buf) (hseq : m'.seq = m.seq) :
    (∀ g ∈ groupLists (step (run (init maxSize timeout) ops).1 (.push m tp tc)).2, (m' ∈ g ↔ m ∈ g)) ∧
    (∀ p ∈ (step (run (init maxSize timeout) ops).1 (.push m tp tc)).1.buf, (m' ∈ p.2.msgs ↔ m ∈ p.2.msgs)) := by
  generalize hs0 : (run (init maxSize timeout) ops).1 = s at hb ⊢
  have hs : Inv s := hs0 ▸ (reach_run maxSize timeout ops).inv
  have hs1 : Inv (put s m tp) := inv_put hs m tp
  obtain ⟨p0, hp0, hm'0, hm0⟩ := C01_no_split hs m m' tp hm hb hseq
  -- in the buffer after Put, an event that holds either record is the one that holds both
  have key : ∀ p ∈ (put s m tp).buf, (m' ∈ p.2.msgs ↔ m ∈ p.2.msgs) := fun p hp =>
    ⟨fun h => hs1.same_event hp hp0 h hm'0 rfl ▸ hm0, fun h => hs1.same_event hp hp0 h hm0 rfl ▸ hm'0⟩
  constructor
  · intro g hg
    rw [groupLists_step] at hg
    obtain ⟨p, hp, rfl⟩ := List.mem_map.mp hg
    exact key p ((evictedBy_prefix s (.push m tp tc)).subset hp)
  · exact fun p hp => key p ((step_buf_suffix s (.push m tp tc)).subset hp)

end LA.Reasm

/-! ### the code keeps nothing between calls that the model does not have -/

/-- Outside `init`, no function of the root package writes a package-level variable, hands the address of one to a function or calls a
sync/atomic method on one (regenerated list, see LA.Proofs.StateFacts): all state is in the object the model is given. -/
theorem C01_state_is_in_the_object : LA.StateFacts.ofPkg "" = [] := LA.StateFacts.ofPkg_root

/-- The model's message is the record as the Reassembler sees it — an identity, a sequence number and a record type —
and that is all the code looks at: in reassembler.go the only fields of `auparse.AuditMessage` selected are `RecordType`
and `Sequence`, and the only function outside the root package that is handed messages is the Stream's
`ReassemblyComplete` (`msgReads`, regenerated with go/types on every run). Grouping, order, completion, eviction and
loss accounting are therefore functions of (sequence, type) histories and of the clock, as in `Model.Reasm`; a
Reassembler that also consults a record's time stamp, text or parsed data — to guess at a restart of the kernel's
counter, to tell two events with one number apart — is outside that reading whatever it uses them for, and the
drivers' histories (which vary time stamps and bodies independently of the sequence numbers) search for the input on
which it shows. -/
theorem C01_reads_only_sequence_and_type :
    LA.Gen.ReasmFacts.msgReads = ["call:ReassemblyComplete", "field:RecordType", "field:Sequence"] := by rfl

/-- What the root package reads of the process it runs in is the clock (the Reassembler's deadlines, which the model is
given as readings), the process id (an input of SetPID) and the page size (the default receive buffer): `envReads`,
regenerated with go/types on every run, lists the package-level functions of os, os/user, os/exec, net, runtime,
math/rand, crypto/rand that are called, time.Now / Since / Until, file-system functions of path/filepath and process
queries of syscall. Nothing else of the machine — processors, environment variables, files, random numbers — can
influence what the Reassembler or the client does. -/
theorem C01_environment_is_clock_pid_pagesize : LA.StateFacts.envOf "" = LA.StateFacts.rootEnv := LA.StateFacts.envOf_root
