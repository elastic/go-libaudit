/-
The command methods of the client model, each written as `sendThen … (ackThen …)` and read on the queues the properties
speak of; the AuditStatus bytes (toWireFormat / FromWireFormat); GetRules on a complete listing (`RuleMsg`, `listing`)
and the rules it returns being copies (`Ref.Owned`); DeleteRules as the graph of its loop (`AllDeleted`, `FirstFailure`,
`deleteLoop_spec`); WaitForPendingACKs on a queue of acknowledgements (`AckMsg`, `acks`, `waitLoop_prefix`).
-/
import LA.Proofs.Client

namespace LA.Client
open LA.Netlink

theorem addRule_eq (s : St) (rule : Bytes) :
    addRule s rule = sendThen .fail (send s AUDIT_ADD_RULE (NLM_F_REQUEST + NLM_F_ACK) rule) awaitAck := by
  unfold addRule
  exact sendThen_eq Out.fail _ awaitAck

theorem deleteRule_eq (s : St) (rule : Bytes) :
    deleteRule s rule = sendThen .fail (send s AUDIT_DEL_RULE (NLM_F_REQUEST + NLM_F_ACK) rule) awaitAck := by
  unfold deleteRule
  exact sendThen_eq Out.fail _ awaitAck

theorem set_eq (s : St) (st : Status) (mode : Nat) :
    set s st mode = sendThen .fail (send s AuditSet (NLM_F_REQUEST + NLM_F_ACK) st.toWire) fun q s1 =>
      if mode = NoWait then ({ s1 with pending := s1.pending ++ [q] }, .ok .none) else awaitAck q s1 := by
  unfold set
  exact sendThen_eq Out.fail _ _

/-- the result of a command that only waits for its acknowledgement -/
def outOfVerdict : Option Err → Out
  | none => .ok .none
  | some e => .fail e

theorem outOfVerdict_ok_iff (v : Option Err) : outOfVerdict v = .ok .none ↔ v = none := by
  cases v <;> simp [outOfVerdict]

theorem set_sent (s : St) (st : Status) (mode : Nat) :
    (set s st mode).1.sent = s.sent ++ [⟨AuditSet, NLM_F_REQUEST + NLM_F_ACK, (s.seq + 1) % 4294967296, st.toWire⟩] := by
  rw [set_eq]
  refine sendThen_ind _ _ _ (fun x => x.1.sent = _) rfl ?_
  split
  · rfl
  · exact (awaitAck_frame ..).sent

theorem set_nowait_recvs (s : St) (st : Status) : (set s st NoWait).1.recvs = s.recvs := by
  rw [set_eq]
  exact sendThen_ind _ _ _ (fun x => x.1.recvs = s.recvs) rfl (by rw [if_pos rfl]; rfl)

theorem toWire_length (s : Status) : s.toWire.length = 44 := by
  -- not `rfl`: the unifier is very slow to count the 44 bytes that way
  simp only [Status.toWire, List.length_append, le32_length]

theorem ofBytes_toWire (s : Status) : (Status.ofBytes s.toWire).words = s.words.map (· % 4294967296) := by
  have last (n : Nat) : rd32 (le32 n) 0 = n % 4294967296 := by simpa using rd32_le32 n []
  simp only [Status.ofBytes, Status.toWire, Status.words, List.append_assoc, rd32_le32_add, rd32_le32, last,
    List.map_cons, List.map_nil]

theorem toWire_ofBytes (b : Bytes) (h : 44 ≤ b.length) : (Status.ofBytes b).toWire = b.take 44 := by
  have word (i n : Nat) (hi : i + 4 ≤ 44 := by decide) :
      le32 (rd32 b i) ++ (b.drop (i + 4)).take n = (b.drop i).take (4 + n) := le32_rd32_take b i n (Nat.le_trans hi h)
  simp only [Status.toWire, Status.ofBytes, List.append_assoc]
  -- the words are peeled from the back: the last one is `(b.drop 40).take 4`, and the word at offset `i` in front of the `n`
  -- bytes already recovered makes them `(b.drop i).take (4 + n)` (`word i n`), down to `(b.drop 0).take 44`
  rw [le32_rd32_at b 40 (Nat.le_trans (by decide) h), word 36 4, word 32 8, word 28 12, word 24 16, word 20 20, word 16 24,
    word 12 28, word 8 32, word 4 36, word 0 40]
  rfl

theorem toWire_zero : Status.zero.toWire = List.replicate 44 0 := by decide +kernel

theorem copyInto_zero (buf : Bytes) :
    copyInto Status.zero.toWire buf = buf.take 44 ++ List.replicate (44 - buf.length) 0 := by
  unfold copyInto
  rw [toWire_length, toWire_zero, List.drop_replicate]

theorem copyInto_full (recv : Status) (buf : Bytes) (h : 44 ≤ buf.length) : copyInto recv.toWire buf = buf.take 44 := by
  simp [copyInto, toWire_length, List.drop_eq_nil_of_le (Nat.le_trans (Nat.le_of_eq (toWire_length recv)) h)]

theorem fromWireBytes_eq (recv : Status) (buf : Bytes) :
    fromWireBytes recv buf =
      if buf.length < 32 then none else some (buf.take 44 ++ List.replicate (44 - buf.length) 0) := by
  unfold fromWireBytes
  simp only [MinSizeofAuditStatus, sizeofAuditStatus]
  by_cases h : buf.length < 32
  · simp [h]
  · simp only [h, if_false]
    by_cases h2 : buf.length < 44
    · simp only [h2, if_true, copyInto_zero]
    · simp only [h2, if_false]
      rw [copyInto_full recv buf (by omega)]
      have : 44 - buf.length = 0 := by omega
      simp [this]

theorem ofBytes_take (b : Bytes) : Status.ofBytes (b.take 44) = Status.ofBytes b := by
  simp only [Status.ofBytes, rd32, rd8_take, Nat.reduceAdd, Nat.reduceLT]

theorem fromWire_eq (recv : Status) (buf : Bytes) :
    fromWire recv buf = if buf.length < 32 then none else some (Status.ofBytes buf) := by
  -- a byte that is not there reads as the 0 the zero-filled image has in its place
  have image : Status.ofBytes (buf.take 44 ++ List.replicate (44 - buf.length) 0) = Status.ofBytes (buf.take 44) := by
    simp only [Status.ofBytes, rd32, rd8_append_zeros]
  rw [fromWire, fromWireBytes_eq]
  split
  · rfl
  · rw [Option.map_some, image, ofBytes_take]

/-- what GetStatus makes of the message that follows a successful ACK -/
def statusReply (own : Nat) (b : Bytes) : Out :=
  if (Hdr.parse b).seq ≠ own then .fail (.seqMismatch (Hdr.parse b).seq)
  else if (Hdr.parse b).typ ≠ AuditGet then .fail (.replyType (Hdr.parse b).typ)
  else match fromWire Status.zero (b.drop 16) with
    | none => .fail .eof
    | some st => .ok (.status st)

/-- the rest of GetStatus after a successful ACK -/
def statusTail (q : Nat) (s2 : St) : St × Out :=
  match getReply q s2 with
  | (s3, .error e) => (s3, .fail e)
  | (s3, .ok reply) =>
    if reply.hdr.typ ≠ AuditGet then (s3, .fail (.replyType reply.hdr.typ))
    else match fromWire Status.zero reply.data with
      | none => (s3, .fail .eof)
      | some st => (s3, .ok (.status st))

theorem getStatus_eq (s : St) :
    getStatus s = sendThen .fail (getStatusAsync s true) fun q s1 => ackThen .fail q s1 (statusTail q) := by
  unfold getStatus
  exact sendThen_eq Out.fail _ fun q s1 => ackThen .fail q s1 (statusTail q)

theorem getStatus_send_fail (s : St) (h : (getStatusAsync s true).2.2 = false) :
    getStatus s = ((getStatusAsync s true).1, .fail .send) := by
  rw [getStatus_eq, sendThen, h]
  rfl

theorem statusTail_dialogue (q : Nat) (hq : q ≠ 0) (s2 : St) {ns : List Seg} {ts : List Item} {b : Bytes}
    {rest : List Item} (d : Dialogue s2.queue ns ts b rest) :
    (statusTail q s2).2 = statusReply q b ∧ Consumed s2 (statusTail q s2).1 (Dialogue.cost ns ts) rest := by
  obtain ⟨s3, hc, hg⟩ := getReply_dialogue q hq s2 d
  rw [statusTail, hg, replyOf, statusReply]
  by_cases he : (Hdr.parse b).seq = q
  · rw [if_pos he, if_neg (by simpa using he)]
    simp only
    split
    · exact ⟨rfl, hc⟩
    · cases fromWire Status.zero (b.drop 16) <;> exact ⟨rfl, hc⟩
  · rw [if_neg he, if_pos (by simpa using he)]
    exact ⟨rfl, hc⟩

theorem statusTail_frame (q : Nat) (s2 : St) : Frame s2 (statusTail q s2).1 := by
  obtain ⟨s3, r, hg, hf⟩ := getReply_result q s2
  rw [statusTail, hg]
  cases r with
  | error e => exact hf
  | ok reply =>
    simp only
    split
    · exact hf
    · split <;> exact hf

theorem getStatus_frame (s : St) : Frame (getStatusAsync s true).1 (getStatus s).1 := by
  rw [getStatus_eq]
  exact sendThen_ind _ _ _ (fun x => Frame _ x.1) (Frame.refl _) (ackThen_frame _ _ _ _ (statusTail_frame _))

/-- one message of the rule listing as the request finds it: noise, a retryable run, the datagram -/
structure RuleMsg where
  ns : List Seg
  ts : List Item
  b  : Bytes

/-- `r` is a message of the listing that answers request `own` -/
def RuleMsg.Ok (own : Nat) (r : RuleMsg) : Prop :=
  (∀ n ∈ r.ns, n.Ok) ∧ Retryable r.ts ∧ 16 ≤ r.b.length ∧ (Hdr.parse r.b).seq = own ∧
  (Hdr.parse r.b).typ = AUDIT_LIST_RULES

def RuleMsg.items (r : RuleMsg) : List Item := noise r.ns ++ (r.ts ++ [.raw r.b])

/-- the queue items of a rule listing, without the NLMSG_DONE that ends it -/
def listing (rs : List RuleMsg) : List Item := rs.flatMap RuleMsg.items

theorem rulesLoop_listing (own : Nat) (hown : own ≠ 0) (rs : List RuleMsg) (hrs : ∀ r ∈ rs, r.Ok own)
    {nsD : List Seg} {tsD : List Item} {done : Bytes} {rest : List Item}
    (hdone : (Hdr.parse done).seq = own ∧ (Hdr.parse done).typ = NLMSG_DONE)
    (s : St) (q : List Item) (dD : Dialogue q nsD tsD done rest) (hq : s.queue = listing rs ++ q)
    (f : Nat) (hf : s.queue.length < f) (acc : List Ref) :
    ∃ s', rulesLoop own f s acc = (s', .ok (acc ++ rs.map fun r => .owned (r.b.drop 16))) ∧ s'.queue = rest := by
  induction rs generalizing s f acc with
  | nil =>
    obtain ⟨f, rfl⟩ : ∃ k, f = k + 1 := ⟨f - 1, by omega⟩
    have d' : Dialogue s.queue nsD tsD done rest := by rw [hq]; exact dD
    obtain ⟨s1, hc, hg⟩ := getReply_dialogue own hown s d'
    rw [rulesLoop, hg]
    simp only [replyOf, hdone.1, if_true, hdone.2]
    exact ⟨s1, by rw [List.map_nil, List.append_nil], hc.queue⟩
  | cons r rs ih =>
    obtain ⟨f, rfl⟩ : ∃ k, f = k + 1 := ⟨f - 1, by omega⟩
    obtain ⟨hns, hts, hlen, hseq, htyp⟩ := hrs r (List.mem_cons_self ..)
    have d' : Dialogue s.queue r.ns r.ts r.b (listing rs ++ q) :=
      .of_items (by rw [hq, listing, List.flatMap_cons, List.append_assoc]; rfl) hns hts hlen hseq hown
    obtain ⟨s1, hc, hg⟩ := getReply_dialogue own hown s d'
    rw [rulesLoop, hg]
    have hnd : ¬ AUDIT_LIST_RULES = NLMSG_DONE := by decide
    simp only [replyOf, hseq, if_true, htyp, hnd, if_false, ne_eq, not_true_eq_false]
    have hf1 : s1.queue.length < f := by
      rw [d'.q_eq, List.length_append, List.length_append, List.length_cons, ← hc.queue] at hf
      omega
    obtain ⟨s', he, hq'⟩ := ih (fun x hx => hrs x (List.mem_cons_of_mem _ hx)) s1 hc.queue f hf1 (acc ++ [.owned (r.b.drop 16)])
    exact ⟨s', by rw [he, List.map_cons, List.append_assoc, List.singleton_append], hq'⟩

theorem rulesLoop_frame (q f : Nat) (s : St) (acc : List Ref) : Frame s (rulesLoop q f s acc).1 := by
  induction f generalizing s acc with
  | zero => exact Frame.refl s
  | succ f ih =>
    obtain ⟨s1, r, hg, hf⟩ := getReply_result q s
    rw [rulesLoop, hg]
    cases r with
    | error e => exact hf
    | ok reply =>
      simp only
      split
      · exact hf
      · split
        · exact hf
        · exact hf.trans (ih _ _)

theorem getRulesE_eq (s : St) :
    getRulesE s = sendThen .error (send s AUDIT_LIST_RULES (NLM_F_REQUEST + NLM_F_ACK) []) fun q s1 =>
      ackThen .error q s1 fun s2 => rulesLoop q (s2.queue.length + 1) s2 [] := by
  unfold getRulesE
  exact sendThen_eq Except.error _ fun q s1 => ackThen .error q s1 fun s2 => rulesLoop q (s2.queue.length + 1) s2 []

def Ref.Owned : Ref → Prop
  | .owned _ => True
  | .view _ _ => False

theorem rulesLoop_owned (q f : Nat) (s : St) (acc : List Ref) (hacc : ∀ r ∈ acc, r.Owned) :
    ∀ rs, (rulesLoop q f s acc).2 = .ok rs → ∀ r ∈ rs, r.Owned := by
  induction f generalizing s acc with
  | zero => intro rs h; simp [rulesLoop] at h
  | succ f ih =>
    intro rs h
    unfold rulesLoop at h
    split at h
    · simp at h
    · split at h
      · cases h; exact hacc
      · split at h
        · simp at h
        · exact ih _ _ (List.forall_mem_append.mpr ⟨hacc, by simp [Ref.Owned]⟩) rs h

theorem getRulesE_owned (s : St) (rs : List Ref) (h : (getRulesE s).2 = .ok rs) : ∀ r ∈ rs, r.Owned := by
  rw [getRulesE_eq] at h
  refine sendThen_ind _ _ _ (fun x => x.2 = Except.ok rs → ∀ r ∈ rs, r.Owned) (fun h => by simp at h) ?_ h
  exact ackThen_ind _ _ _ _ (fun x => x.2 = Except.ok rs → ∀ r ∈ rs, r.Owned) (fun _ _ _ h => by simp at h)
    fun s2 _ => rulesLoop_owned _ _ s2 [] (by simp) rs

theorem deref_owned (r : Ref) (h : r.Owned) (buf buf' : Bytes) : r.deref buf = r.deref buf' := by
  cases r with
  | owned b => rfl
  | view o l => exact h.elim

/-- every rule of the list was deleted by its own request, threading the state -/
inductive AllDeleted : List Ref → St → St → Prop
  | nil (s : St) : AllDeleted [] s s
  | cons {r : Ref} {rs : List Ref} {s s1 s2 : St} {d : Data} :
      deleteRule s (r.deref s.buf) = (s1, .ok d) → AllDeleted rs s1 s2 → AllDeleted (r :: rs) s s2

/-- the rules in front were deleted one by one, the next deletion failed with `e` (and nothing behind it was tried) -/
inductive FirstFailure : List Ref → St → St → Err → Prop
  | here {r : Ref} {rs : List Ref} {s s1 : St} {e : Err} :
      deleteRule s (r.deref s.buf) = (s1, .fail e) → FirstFailure (r :: rs) s s1 e
  | later {r : Ref} {rs : List Ref} {s s1 s2 : St} {d : Data} {e : Err} :
      deleteRule s (r.deref s.buf) = (s1, .ok d) → FirstFailure rs s1 s2 e → FirstFailure (r :: rs) s s2 e

theorem deleteRule_not_panic (s : St) (rule : Bytes) : (deleteRule s rule).2 ≠ .panic := by
  rw [deleteRule_eq]
  refine sendThen_ind _ _ _ (fun x : St × Out => x.2 ≠ .panic) nofun ?_
  exact ackThen_ind _ _ _ _ (fun x : St × Out => x.2 ≠ .panic) (fun _ _ _ => nofun) fun _ _ => nofun

theorem deleteLoop_spec (rs : List Ref) (s : St) :
    (∀ s2, deleteLoop rs s = (s2, none) ↔ AllDeleted rs s s2) ∧
    (∀ s2 e, deleteLoop rs s = (s2, some e) ↔ FirstFailure rs s s2 e) := by
  -- the loop produces the derivations …
  have fwd : ∀ s2 o, deleteLoop rs s = (s2, o) →
      match o with
      | none => AllDeleted rs s s2
      | some e => FirstFailure rs s s2 e := by
    induction rs generalizing s with
    | nil => intro s2 o h; cases h; exact .nil s
    | cons r rs ih =>
      intro s2 o h
      rw [deleteLoop] at h
      match hd : deleteRule s (r.deref s.buf), h with
      | (s1, .ok d), h =>
        have := ih s1 s2 o h
        cases o with
        | none => exact .cons hd this
        | some e => exact .later hd this
      | (s1, .fail e), h => cases h; exact .here hd
      | (s1, .panic), _ => exact absurd (by rw [hd]) (deleteRule_not_panic s (r.deref s.buf))
  -- … and a derivation says what the loop does
  refine ⟨fun s2 => ⟨fwd s2 none, fun h => ?_⟩, fun s2 e => ⟨fwd s2 (some e), fun h => ?_⟩⟩
  all_goals clear fwd
  · induction h with
    | nil => rfl
    | cons h1 _ ih => simp only [deleteLoop, h1, ih]
  · induction h with
    | here h1 => simp only [deleteLoop, h1]
    | later h1 _ ih => simp only [deleteLoop, h1, ih]

/-- the acknowledgement of one pending request as the WaitForPendingACKs loop finds it -/
structure AckMsg where
  ns : List Seg
  ts : List Item
  b  : Bytes

def AckMsg.items (a : AckMsg) : List Item := noise a.ns ++ (a.ts ++ [.raw a.b])

/-- `a` is a successful acknowledgement of request `p` -/
def AckMsg.Success (p : Nat) (a : AckMsg) : Prop :=
  p ≠ 0 ∧ (∀ n ∈ a.ns, n.Ok) ∧ Retryable a.ts ∧ 16 ≤ a.b.length ∧ verdict p a.b = none

/-- the queue items of the acknowledgements in the order of the pending list (`pa` pairs each request number with its
acknowledgement) -/
def acks (pa : List (Nat × AckMsg)) : List Item := pa.flatMap fun x => x.2.items

theorem waitLoop_cons_dialogue (p : Nat) (ps : List Nat) (hp : p ≠ 0) (s : St) {ns : List Seg} {ts : List Item}
    {b : Bytes} {rest : List Item} (d : Dialogue s.queue ns ts b rest) :
    ∃ s1, Consumed s s1 (Dialogue.cost ns ts) rest ∧
      waitLoop (p :: ps) s =
        if (Hdr.parse b).seq = p then
          match ackCheck b with
          | some e => ({ s1 with pending := ps }, .fail e)
          | none => waitLoop ps { s1 with pending := ps }
        else (s1, .fail (.seqMismatch (Hdr.parse b).seq)) := by
  obtain ⟨s1, hc, hg⟩ := getReply_dialogue p hp s d
  refine ⟨s1, hc, ?_⟩
  conv => lhs; rw [waitLoop, hg, replyOf]
  by_cases he : (Hdr.parse b).seq = p
  · simp only [if_pos he, checkAck_parse b d.b_len]
    cases ackCheck b <;> rfl
  · simp only [if_neg he]

theorem waitLoop_prefix (pa : List (Nat × AckMsg)) (hpa : ∀ x ∈ pa, x.2.Success x.1) (more : List Nat)
    (s : St) (q : List Item) (hp : s.pending = pa.map (·.1) ++ more) (hq : s.queue = acks pa ++ q) :
    ∃ s', waitLoop (pa.map (·.1) ++ more) s = waitLoop more s' ∧ s'.pending = more ∧ s'.queue = q ∧
          s'.recvs = s.recvs + (acks pa).length ∧ s'.sent = s.sent := by
  induction pa generalizing s with
  | nil => exact ⟨s, rfl, by simpa using hp, by simpa [acks] using hq, by simp [acks], rfl⟩
  | cons x pa ih =>
    obtain ⟨hp0, hns, hts, hlen, hv⟩ := hpa x (List.mem_cons_self ..)
    have hseq : (Hdr.parse x.2.b).seq = x.1 := ((verdict_none_iff x.1 x.2.b).mp hv).1
    have d : Dialogue s.queue x.2.ns x.2.ts x.2.b (acks pa ++ q) :=
      .of_items (by rw [hq, acks, List.flatMap_cons, List.append_assoc]; rfl) hns hts hlen hseq hp0
    obtain ⟨s1, hc, he⟩ := waitLoop_cons_dialogue x.1 (pa.map (·.1) ++ more) hp0 s d
    obtain ⟨s', h1, h2, h3, h4, h5⟩ := ih (fun y hy => hpa y (List.mem_cons_of_mem _ hy))
      { s1 with pending := pa.map (·.1) ++ more } rfl hc.queue
    refine ⟨s', ?_, h2, h3, ?_, h5.trans hc.frame.sent⟩
    · rw [← h1, List.map_cons, List.cons_append, he, if_pos hseq, ← verdict_own hseq, hv]
    · rw [h4]
      simp only [hc.recvs, acks, List.flatMap_cons, List.length_append, AckMsg.items, Dialogue.cost, List.length_cons,
        List.length_nil]
      omega

end LA.Client
