/-
C17 — Client ACK bookkeeping, Close and returned data behave once-and-only-once.

Partial by nature (named so in the manifest): "concurrently" is proved for a model in which
`sync.Once` is an atomic test-and-set plus "losers block until the winner's body has returned";
that this is what the Go runtime provides, and data-race freedom, are assumptions.  The tie for
that clause is a stress run of G goroutines x K Close calls on the real client.
-/
import LA.Proofs.ClientOnce
import LA.Proofs.StateObligations.Root

namespace LA.Client
open LA.Netlink

/-- A NoWait request: one message sent, its sequence number appended to the pending list, nothing
received. -/
theorem C17_nowait_appends (s : St) (st : Status) (h : (send s AuditSet (NLM_F_REQUEST + NLM_F_ACK) st.toWire).2.2 = true) :
    (set s st NoWait).2 = .ok .none ∧
    (set s st NoWait).1.pending = s.pending ++ [(s.seq + 1) % 4294967296] ∧
    (set s st NoWait).1.recvs = s.recvs := by
  rw [set_eq, sendThen, if_pos h, if_pos rfl]
  exact ⟨rfl, rfl, rfl⟩

/-- a request that could not be sent is not pending -/
theorem C17_nowait_send_failure (s : St) (st : Status)
    (h : (send s AuditSet (NLM_F_REQUEST + NLM_F_ACK) st.toWire).2.2 = false) :
    (set s st NoWait).2 = .fail .send ∧ (set s st NoWait).1.pending = s.pending := by
  rw [set_eq, sendThen, h]
  exact ⟨rfl, rfl⟩

/-- FIFO, all successes.  If the pending list is p₁ … pₙ and the queue holds, in that order, a
successful acknowledgement of each (each behind any noise), WaitForPendingACKs returns nil, the
list is empty afterwards, exactly those acknowledgements were consumed (what follows stays
queued) and nothing was sent. -/
theorem C17_pending_fifo (pa : List (Nat × AckMsg)) (hpa : ∀ x ∈ pa, x.2.Success x.1) (s : St) (q : List Item)
    (hp : s.pending = pa.map (·.1)) (hq : s.queue = acks pa ++ q) :
    (waitForPendingACKs s).2 = .ok .none ∧ (waitForPendingACKs s).1.pending = [] ∧
    (waitForPendingACKs s).1.queue = q ∧ (waitForPendingACKs s).1.recvs = s.recvs + (acks pa).length ∧
    (waitForPendingACKs s).1.sent = s.sent := by
  obtain ⟨s', h1, h2, h3, h4, h5⟩ := waitLoop_prefix pa hpa [] s q (by simpa using hp) hq
  rw [List.append_nil] at h1
  rw [waitForPendingACKs, hp, h1, waitLoop]
  exact ⟨rfl, h2, h3, h4, h5⟩

/-- FIFO, first kernel error.  If the first k pending requests are acknowledged successfully and
the next one, `p`, gets its own acknowledgement `a` carrying a verdict `e` that is not a success
(an errno, a wrong type, a short payload), WaitForPendingACKs returns exactly that error; the
consumed prefix INCLUDING `p` is removed from the list, so a later call waits only for `more`; and
nothing behind `a` was consumed. -/
theorem C17_pending_first_error (pa : List (Nat × AckMsg)) (hpa : ∀ x ∈ pa, x.2.Success x.1)
    (p : Nat) (a : AckMsg) (more : List Nat) (e : Err) (s : St) (q : List Item)
    (hp0 : p ≠ 0) (hns : ∀ n ∈ a.ns, n.Ok) (hts : Retryable a.ts) (hlen : 16 ≤ a.b.length)
    (hseq : (Hdr.parse a.b).seq = p) (hv : verdict p a.b = some e)
    (hp : s.pending = pa.map (·.1) ++ p :: more) (hq : s.queue = acks pa ++ (a.items ++ q)) :
    (waitForPendingACKs s).2 = .fail e ∧ (waitForPendingACKs s).1.pending = more ∧
    (waitForPendingACKs s).1.queue = q := by
  obtain ⟨s', h1, _, h3, _, _⟩ := waitLoop_prefix pa hpa (p :: more) s (a.items ++ q) hp hq
  have d : Dialogue s'.queue a.ns a.ts a.b q := .of_items h3 hns hts hlen hseq hp0
  obtain ⟨s1, hc, he⟩ := waitLoop_cons_dialogue p more hp0 s' d
  rw [waitForPendingACKs, hp, h1, he, if_pos hseq, ← verdict_own hseq, hv]
  exact ⟨rfl, rfl, hc.queue⟩

/-- A reply carrying another request's number is an error that leaves `p` pending: its acknowledgement
has not been consumed. -/
theorem C17_pending_foreign (p : Nat) (more : List Nat) (s : St) {ns : List Seg} {ts : List Item} {b : Bytes}
    {rest : List Item} (hp0 : p ≠ 0) (hp : s.pending = p :: more) (d : Dialogue s.queue ns ts b rest)
    (hf : (Hdr.parse b).seq ≠ p) :
    (waitForPendingACKs s).2 = .fail (.seqMismatch (Hdr.parse b).seq) ∧ (waitForPendingACKs s).1.pending = p :: more := by
  obtain ⟨s1, hc, he⟩ := waitLoop_cons_dialogue p more hp0 s d
  rw [waitForPendingACKs, hp, he, if_neg hf]
  exact ⟨rfl, hc.frame.pending.trans hp⟩

/-- A wait that does not get its reply leaves the request pending. Whatever makes `getReply` fail
for the oldest pending request — a hard receive failure of any kind (ENOBUFS after an overrun, EIO, EBADF:
the model has one such failure because the code has one), ten transient failures in a row, an empty
read, a reply with another request's number — `WaitForPendingACKs` returns that error and the pending
list is exactly what it was: the acknowledgement has not been consumed, so the request is not forgotten. -/
theorem C17_failed_wait_keeps_pending (p : Nat) (more : List Nat) (s : St) (hp : s.pending = p :: more)
    (e : Err) (hg : (getReply p s).2 = .error e) :
    (waitForPendingACKs s).2 = .fail e ∧ (waitForPendingACKs s).1.pending = p :: more := by
  obtain ⟨s1, r, hgr, hf⟩ := getReply_result p s
  rw [hgr] at hg
  obtain rfl : r = .error e := hg
  rw [waitForPendingACKs, hp, waitLoop, hgr]
  exact ⟨rfl, hf.pending.trans hp⟩

/-- non-vacuity of `C17_failed_wait_keeps_pending`: a hard receive failure right at the front of the queue -/
example :
    let ack (q e : Nat) : PItem := ⟨.raw (serialize ⟨⟨0, 2, 0, q, 0⟩, le32 ((4294967296 - e) % 4294967296)⟩), none⟩
    let s0 := { St.init 0 64 true with plans := [{ items := [⟨.fail, none⟩, ack 1 0] }, { items := [ack 2 0] }] }
    let r := run s0 [.setEnabled true NoWait, .setRateLimit 5 NoWait, .waitAcks, .waitAcks, .waitAcks]
    r.2 = [.ok .none, .ok .none, .fail .recv, .ok .none, .ok .none] ∧ r.1.pending = [] ∧ r.1.queue = [] := by
  decide +kernel

/-- calling again when nothing is pending does nothing at all: no re-waiting -/
theorem C17_wait_again (s : St) (h : s.pending = []) : waitForPendingACKs s = (s, .ok .none) := by
  unfold waitForPendingACKs; rw [h]; rfl

/-- non-vacuity: three NoWait requests, the second is refused with EPERM; the first wait returns
EPERM and leaves [3], the second returns nil and leaves [], the third does nothing -/
example :
    let ack (q e : Nat) : PItem := ⟨.raw (serialize ⟨⟨0, 2, 0, q, 0⟩, le32 ((4294967296 - e) % 4294967296)⟩), none⟩
    let s0 := { St.init 0 64 true with plans := [{ items := [ack 1 0] }, { items := [ack 2 1] }, { items := [ack 3 0] }] }
    let r := run s0 [.setEnabled true NoWait, .setRateLimit 5 NoWait, .setBacklogLimit 6 NoWait, .waitAcks, .waitAcks, .waitAcks]
    r.2 = [.ok .none, .ok .none, .ok .none, .fail (.errno 1), .ok .none, .ok .none] ∧ r.1.pending = [] ∧ r.1.queue = [] := by
  decide +kernel

/-- The first Close: sends the PID clear — AUDIT_SET {mask PID, pid 0}, recorded as pending, not
waited for — iff SetPID was used, then closes the socket (once), receiving nothing; it returns nil
iff both succeeded.  Every later Close changes nothing and returns nil. -/
theorem C17_close_first (s : St) (h : s.once = false) :
    (close s).1.closes = s.closes + 1 ∧ (close s).1.once = true ∧ (close s).1.recvs = s.recvs ∧
    (close s).1.sent = (if s.clearPID then
        s.sent ++ [⟨AuditSet, NLM_F_REQUEST + NLM_F_ACK, (s.seq + 1) % 4294967296,
                    ({ mask := AuditStatusPID, pid := 0 } : Status).toWire⟩]
      else s.sent) := by
  obtain ⟨h1, h2⟩ := (close_facts s).2 h
  refine ⟨h2, h1, ?_⟩
  rw [close_fst s h, closeBody]
  split
  · exact ⟨set_nowait_recvs _ _, set_sent _ _ _⟩
  · exact ⟨rfl, rfl⟩

theorem C17_close_later (s : St) (h : s.once = true) : close s = (s, .ok .none) := (close_facts s).1 h

/-- Over every history of operations (any operations, any kernel behaviour, any number of Close
calls anywhere): the socket is never closed twice, and it has been closed exactly once from the
first Close on. -/
theorem C17_close_once (seq0 bufLen : Nat) (closeOk : Bool) (ops : List Op) :
    (run (St.init seq0 bufLen closeOk) ops).1.closes ≤ 1 ∧
    (Op.close ∈ ops → (run (St.init seq0 bufLen closeOk) ops).1.closes = 1) := by
  obtain ⟨h1, h2⟩ := run_close ops (St.init seq0 bufLen closeOk) rfl
  unfold CloseInv at h1
  exact ⟨by rw [h1]; split <;> omega, fun hm => by rw [h1, h2 (Or.inr hm)]; rfl⟩

/-- non-vacuity: SetPID, Close, Close, a command after Close, Close -/
example :
    let r := run (St.init 0 64 true) [.setPID 77 NoWait, .close, .close, .setEnabled true NoWait, .close]
    r.1.closes = 1 ∧ r.2 = [.ok .none, .ok .none, .ok .none, .ok .none, .ok .none] ∧
    r.1.sent.map (fun m => (m.typ, rd32 m.data 0, rd32 m.data 12)) = [(1001, 4, 77), (1001, 4, 0), (1001, 1, 0)] := by
  decide +kernel

/-- Any number of Close calls from any number of goroutines, under every interleaving of their
steps (`sched`; a call's steps are: take the Once or find it taken; [winner] send the PID clear if
needed; [winner] Netlink.Close; [loser] return once the winner's body is done).  At every point:
* what has been done so far is a prefix of "PID clear (iff SetPID was used), then Netlink.Close":
  never two closes, never two clears, never a clear after the close, no clear without SetPID;
* as soon as ANY call has returned, all of it has been done — the socket is closed exactly once;
* at most one call returns an error, namely the one that ran the body, and only if the PID clear
  could not be sent or Netlink.Close failed; every other call returns nil.

PARTIAL: proved of the atomic-step model of `sync.Once` (`ccStep`).  Missing: that the Go runtime's
`sync.Once` behaves like that model, and data-race freedom of the client under concurrent use — runtime
facts, supported by the stress run of the harness only. -/
theorem C17_close_once_concurrent_partial (clearPID sendOk closeOk : Bool) (sched : List Nat) :
    let c := ccRun (CC.init clearPID sendOk closeOk) sched
    (c.log = [] ∨ c.log = midLog clearPID ∨ c.log = fullLog clearPID) ∧
    (∀ i r, c.phase i = .ret r → c.log = fullLog clearPID ∧ (fullLog clearPID).count .sockClose = 1) ∧
    (∀ i j, c.phase i = .ret true → c.phase j = .ret true → i = j) ∧
    (∀ i, c.phase i = .ret true → ((clearPID && !sendOk) || !closeOk) = true) := by
  have hinv := ccInv_run sched (ccInv_init clearPID sendOk closeOk)
  have hpar : _ = clearPID ∧ _ = sendOk ∧ _ = closeOk := ccRun_params sched (CC.init clearPID sendOk closeOk)
  generalize ccRun (CC.init clearPID sendOk closeOk) sched = c at *
  obtain ⟨rfl, rfl, rfl⟩ := hpar
  have hcount : (fullLog c.clearPID).count .sockClose = 1 := by cases c.clearPID <;> decide
  cases ho : c.once with
  | false =>
    obtain ⟨hl, _, hall⟩ := hinv.fresh ho
    have nret : ∀ i r, c.phase i ≠ .ret r := fun i r h => by rw [hall i] at h; cases h
    exact ⟨.inl hl, fun i r h => absurd h (nret i r), fun i _ h => absurd h (nret i _), fun i h => absurd h (nret i _)⟩
  | true =>
    obtain ⟨w, hw, hlos⟩ := hinv.taken ho
    -- whoever has returned, winner or loser, found the Once done
    have hdone : ∀ i r, c.phase i = .ret r → c.done = true := fun i r h => by
      by_cases hi : i = w
      · rw [← hi, h] at hw; exact hw.2.2
      · have := hlos i hi
        rw [h] at this; exact this.2
    have errw : ∀ i, c.phase i = .ret true → i = w := fun i h =>
      eq_winner hlos (by rw [h]; exact fun hl => absurd hl.1 (by decide))
    refine ⟨hw.log.1, fun i r h => ⟨hw.log.2 (hdone i r h), hcount⟩, fun i j hi hj => (errw i hi).trans (errw j hj).symm,
      fun i h => ?_⟩
    rw [← errw i h, h] at hw
    exact hw.1.symm

/-- non-vacuity: three calls; call 1 wins, call 0 finds the Once taken and has to wait, call 2
arrives after everything is done -/
example :
    let c := ccRun (CC.init true true true) [1, 0, 0, 1, 0, 1, 0, 2, 2]
    c.log = [.clearPID, .sockClose] ∧ c.phase 0 = .ret false ∧ c.phase 1 = .ret false ∧ c.phase 2 = .ret false ∧
    (ccRun (CC.init true true true) [1, 0, 0, 1, 0]).phase 0 = .waiting := by
  decide +kernel

/-- Every rule GetRules returns is a copy, so whatever is received into the (one, reused) receive
buffer afterwards — by any later history — reading the rule gives the same bytes. -/
theorem C17_rules_stable (s : St) (rs : List Ref) (h : (getRules s).2 = .ok (.rules rs)) (later : List Op) :
    ∀ r ∈ rs, r.deref (run (getRules s).1 later).1.buf = r.deref (getRules s).1.buf := by
  have ho : ∀ r ∈ rs, r.Owned := by
    apply getRulesE_owned s rs
    unfold getRules at h
    generalize getRulesE s = x at h ⊢
    split at h <;> cases h
    rfl
  intro r hr
  exact deref_owned r (ho r hr) _ _

/-- Not everything the client returns is a copy: Receive hands out a window of the buffer (as its
documentation says), and the next receive changes what it reads.  This is what the copy in GetRules
is for. -/
theorem C17_receive_is_a_view (s : St) (t : Nat) (d : Ref) (h : (receiveMsg s).2 = .ok (.raw t d)) :
    ∃ n, d = .view 16 n := by
  -- of the five ways `receiveMsg` ends only the last returns data, and that is a view at NLMSG_HDRLEN
  unfold receiveMsg at h
  split at h <;> cases h
  exact ⟨_, rfl⟩

example :
    let s0 := { St.init 0 64 true with queue := [.raw (serialize ⟨⟨0, 1300, 0, 0, 0⟩, [1, 2]⟩), .raw (serialize ⟨⟨0, 1300, 0, 0, 0⟩, [3, 4]⟩)] }
    let r1 := receiveMsg s0
    let r2 := receiveMsg r1.1
    r1.2 = .ok (.raw 1300 (.view 16 2)) ∧ (Ref.view 16 2).deref r1.1.buf = [1, 2] ∧ (Ref.view 16 2).deref r2.1.buf = [3, 4] := by
  decide +kernel

end LA.Client

/-! ### the code keeps nothing between calls that the model does not have -/

/-- Outside `init`, no function of the root package writes a package-level variable, hands the address of one to a function or calls a
sync/atomic method on one (regenerated list, see LA.Proofs.StateFacts): all state is in the object the model is given. -/
theorem C17_state_is_in_the_object : LA.StateFacts.ofPkg "" = [] := LA.StateFacts.ofPkg_root

/-- What the root package reads of the process it runs in is the clock (the Reassembler's deadlines, which the model is
given as readings), the process id (an input of SetPID) and the page size (the default receive buffer): `envReads`,
regenerated with go/types on every run, lists the package-level functions of os, os/user, os/exec, net, runtime,
math/rand, crypto/rand that are called, time.Now / Since / Until, file-system functions of path/filepath and process
queries of syscall. Nothing else of the machine — processors, environment variables, files, random numbers — can
influence what the Reassembler or the client does. -/
theorem C17_environment_is_clock_pid_pagesize : LA.StateFacts.envOf "" = LA.StateFacts.rootEnv := LA.StateFacts.envOf_root
