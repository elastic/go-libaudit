/-
Certificates over the regenerated record-type and errno tables (re-checked by the kernel whenever a table changes; the
syscall tables carry theirs in `Gen/Syscalls_<arch>`) and the statements about every entry that the certificates
carry: C04, C07, C12 and C20 build on `type_roundtrip`, `errno_num_name_num`, `syscallName_mem`, `syscallName_of_cert`.
-/
import LA.Model.MsgType
import LA.Model.Tables

namespace LA.MsgType
open LA LA.Gen.MsgTypes

/-- This and `cert_typeTree_complete` are guards on the regenerated trees: every row of a table is found in its tree. No proof
rests on them; a tree that missed a row would answer `UNKNOWN[n]`, or an error, where the Go map has the name. -/
theorem cert_nameTree_complete :
    nameToType.all (fun p => nameTree.find (encode p.1) == some p.2) = true := by decide +kernel

theorem cert_nameTree_sound :
    nameTree.toList = nameToType.map (fun p => (encode p.1, p.2)) := by decide +kernel

theorem cert_type_name_type : ∀ p ∈ typeToName, getType p.2 = some p.1 := by decide +kernel

/-- 91 = '[': no name of the table can be taken for an `UNKNOWN[n]`. -/
theorem cert_names_clean :
    nameToType.all (fun p => p.1.all (fun b => decide (b < 256) && !(b == 91))) = true := by decide +kernel

theorem cert_typeTree_complete :
    (typeToName.zipIdx).all (fun q => typeTree.find q.1.1 == some q.2) = true := by decide +kernel

theorem getType_lower (name : Bytes) : getType (lower name) = getType name := by
  simp only [getType, upper_lower]

theorem typeName_cases (t : Nat) :
    (typeName t = unknownName t) ∨ (∃ n, typeName t = n ∧ (t, n) ∈ typeToName) := by
  fun_cases typeName t with
  | case1 i _ t' n hget heq => exact .inr ⟨n, rfl, beq_iff_eq.mp heq ▸ List.mem_of_getElem? hget⟩
  | _ => exact .inl rfl

theorem mem_unknownName {t b : Nat} (hb : b ∈ unknownName t) : b ∈ unknownPrefix ++ [93] ∨ isDigit b = true := by
  simp only [unknownName, List.mem_append] at hb ⊢
  rcases hb with (hb | hb) | hb
  · exact .inl (.inl hb)
  · exact .inr (dec_digits _ b hb)
  · exact .inl (.inr hb)

theorem unknownName_isBytes (t : Nat) : IsBytes (unknownName t) := by
  intro b hb
  rcases mem_unknownName hb with h | h
  · exact (by decide : ∀ b ∈ unknownPrefix ++ [93], b < 256) b h
  · simp only [isDigit, Bool.and_eq_true, decide_eq_true_eq] at h; omega

theorem upper_unknownName (t : Nat) : upper (unknownName t) = unknownName t := by
  apply upper_id_of
  intro b hb
  rcases mem_unknownName hb with h | h
  · exact (by decide : ∀ b ∈ unknownPrefix ++ [93], isLower b = false) b h
  · exact digit_not_lower h

theorem unknownName_not_in_tree (t : Nat) : nameTree.find (encode (unknownName t)) = none := by
  cases h : nameTree.find (encode (unknownName t)) with
  | none => rfl
  | some v =>
    -- a row of the table with the code of `UNKNOWN[t]` would be that name, and no name of the table has a `[`
    obtain ⟨p, hp, hpe⟩ := List.mem_map.mp (cert_nameTree_sound ▸ Tree.find_mem h)
    have hclean : ∀ b ∈ p.1, b < 256 ∧ b ≠ 91 := fun b hb => by
      simpa using List.all_eq_true.mp (List.all_eq_true.mp cert_names_clean p hp) b hb
    have heq : p.1 = unknownName t := encode_inj (fun b hb => (hclean b hb).1) (unknownName_isBytes t) (congrArg Prod.fst hpe)
    exact absurd rfl (hclean 91 (heq ▸ by simp [unknownName, unknownPrefix])).2

theorem getType_unknownName (t : Nat) (ht : t < 65536) : getType (unknownName t) = some t := by
  unfold getType
  simp only [upper_unknownName, unknownName_not_in_tree]
  have hmod : t % 65536 = t := Nat.mod_eq_of_lt ht
  have h1 : indexOf 91 (unknownName t) = some 7 := by
    simp [unknownName, unknownPrefix, indexOf]
  simp only [h1]
  have h2 : (unknownName t).drop (7 + 1) = dec t ++ [93] := by
    simp [unknownName, unknownPrefix, hmod]
  rw [h2]
  have h3 : indexOf 93 (dec t ++ [93]) = some (dec t).length :=
    indexOf_append_sep [] fun h => by simpa [isDigit] using dec_digits t 93 h
  simp only [h3, List.take_left']
  exact parseUint_dec t 65535 (by omega)

theorem getType_lt {s : Bytes} {v : Nat} (h : getType s = some v) : v < 65536 := by
  have cert : ∀ p ∈ nameToType, p.2 < 65536 := by decide +kernel
  revert h
  fun_cases getType s with
  | case1 _ t hf =>   -- a name of the table
    intro h
    obtain ⟨p, hp, hpe⟩ := List.mem_map.mp (cert_nameTree_sound ▸ Tree.find_mem hf)
    have e : p.2 = v := (congrArg Prod.snd hpe).trans (Option.some.inj h)
    exact e ▸ cert p hp
  | case2 | case3 => nofun
  | case4 => exact fun h => Nat.lt_succ_of_le (parseUint_eq_some h).2.2   -- UNKNOWN[n]: `n` is read with the bound 65535

/-- 109 = 'm', the first byte of `msgToken`. -/
theorem typeName_no_m (t : Nat) : (109 : Nat) ∉ typeName t := by
  have cert : typeToName.all (fun p => !p.2.contains 109) = true := by decide +kernel
  rcases typeName_cases t with h | ⟨n, h, hm⟩
  · rw [h]
    intro hc
    rcases mem_unknownName hc with hc | hc
    · exact absurd hc (by decide)
    · exact absurd hc (by decide)
  · rw [h]
    have := List.all_eq_true.mp cert (t, n) hm
    simpa using this

theorem type_roundtrip (t : Nat) (ht : t < 65536) : getType (typeName t) = some t := by
  rcases typeName_cases t with h | ⟨n, h, hm⟩
  · rw [h]; exact getType_unknownName t ht
  · rw [h]; exact cert_type_name_type (t, n) hm

end LA.MsgType

namespace LA.Tables
open LA

theorem errno_num_name_num :
    ∀ n name, errnoName n = some name → errnoNum name = some n := by
  have cert : ∀ p ∈ LA.Gen.Errno.errnoToName, errnoNum p.2 = some p.1 := by decide +kernel
  exact fun n name h => cert (n, name) (mem_of_lookupN h)

theorem syscallName_mem {arch : Bytes} {num : Nat} {nm : Bytes} (h : syscallName arch num = some nm) :
    ∃ t, sysTable arch = some t ∧ (num, nm) ∈ t.2.1 := by
  revert h
  fun_cases syscallName arch num with
  | case3 a tbl nameTree numTree ht i _ n nm' hg hn =>   -- the one line of the definition that answers `some`
    exact fun h => ⟨_, ht, Option.some.inj h ▸ beq_iff_eq.mp hn ▸ List.mem_of_getElem? hg⟩
  | _ => nofun

/-- … and the other way round, for a table whose tree finds every row under its number (the `cert_nums` of
`Gen/Syscalls_<arch>`). -/
theorem syscallName_of_cert {arch : Bytes} {tbl : List (Nat × List Nat)} {nameTree numTree : Tree}
    (hfind : sysTable arch = some (arch, tbl, nameTree, numTree))
    (cert : (tbl.zipIdx).all (fun q => numTree.find q.1.1 == some q.2) = true) :
    ∀ q ∈ tbl.zipIdx, syscallName arch q.1.1 = some q.1.2 := by
  intro q hq
  have := List.all_eq_true.mp cert q hq
  simp only [beq_iff_eq] at this
  unfold syscallName
  simp only [hfind, this]
  have hget : tbl[q.2]? = some q.1 := List.mem_zipIdx_iff_getElem?.mp hq
  simp [hget]

end LA.Tables
