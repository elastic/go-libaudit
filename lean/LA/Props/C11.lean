/-
C11 — the Reassembler is safe under concurrent Push, Maintain and Close.

Every theorem quantifies over every configuration (maxInFlight, timeout), ANY number of
threads, ANY programs (including Stream callbacks that call PushMessage/Maintain/Close
again, to any depth, chosen by an arbitrary function of the callback's index and payload),
every clock, and EVERY schedule `sched : List Tid` of any length — i.e. every interleaving
at the granularity of the Reassembler's atomic steps (the code between two yield hooks).
`s.trace` is the history, newest event first.

Not expressible in this model, carried by other means (see design_notes/conc.md): data races
(the Go memory model) and the real mutex.  `C11_lock_facts` ties the lock discipline that
justifies "Put, CleanUp, Clear are one atomic step each / no step blocks" to the source.
-/
import LA.Proofs.ReasmConc
import LA.Gen.LockFacts
import LA.Proofs.StateObligations.Root
import LA.Gen.ReasmFacts

namespace LA.ReasmConc
open LA.Reasm

/-- Conservation, at every point of every interleaving: the messages delivered so far, those
evicted from the table and waiting in some thread's locals to be delivered, and those still
buffered are together a permutation of the (non-EOE) messages whose `put` step has run.
Nothing is lost, duplicated or invented, whatever the schedule. -/
theorem C11_conservation (maxSize timeout : Int) (progs : List Prog) (sched : List Tid) :
    let s := run (init maxSize timeout progs) sched
    (delivered s.trace ++ pending s.threads ++ allMsgs s.st.buf).Perm (putLog s.trace) := by
  intro s
  rw [List.perm_iff_count]
  intro x
  have := reach_conserved maxSize timeout progs sched x
  simp only [List.count_append]
  exact this

/-- At most once: if the pushed messages are pairwise distinct, no message occurs twice in
delivered ∪ pending-in-thread-locals ∪ buffered — in particular nothing is delivered twice, and
nothing that was delivered or is about to be delivered is still in the table. -/
theorem C11_at_most_once (maxSize timeout : Int) (progs : List Prog) (sched : List Tid)
    (hd : (putLog (run (init maxSize timeout progs) sched).trace).Nodup) :
    let s := run (init maxSize timeout progs) sched
    (delivered s.trace ++ pending s.threads ++ allMsgs s.st.buf).Nodup :=
  (C11_conservation maxSize timeout progs sched).nodup_iff.mpr hd

/-- Quiescence.  In a terminal state (every thread has finished) nothing is pending; and for
every `Clear` step in the history (the successful Close's flush), every message whose `put`
step ran before that `Clear` has been delivered.  A push that returned before Close was
invoked has run its `put` before the Close's CAS, hence before its `Clear`: this is the
property's "every message whose push returned before Close was invoked has been delivered".
The last two clauses link "a Close succeeded" to that history event: a Close that returned nil
(in any state, terminal or not) has run its `Clear`; and in a terminal state the closed flag
being set (a CAS succeeded) implies the `Clear` has run. -/
theorem C11_quiescent (maxSize timeout : Int) (progs : List Prog) (sched : List Tid) :
    let s := run (init maxSize timeout progs) sched
    (Terminal s → pending s.threads = []) ∧
    (Terminal s → ∀ later earlier j outs, s.trace = later ++ Ev.clear j outs :: earlier →
        ∀ m ∈ putLog earlier, m ∈ delivered s.trace) ∧
    ((∃ t ∈ s.threads, Ret.closeOk ∈ t.rets) → ∃ j outs, Ev.clear j outs ∈ s.trace) ∧
    (Terminal s → s.st.closed = true → ∃ j outs, Ev.clear j outs ∈ s.trace) := by
  intro s
  have hpend : Terminal s → pending s.threads = [] := fun hT =>
    List.flatMap_eq_nil_iff.mpr fun t ht => by rw [hT t ht]; rfl
  -- the Close calls that returned nil are at most the Clear steps, and in a terminal state they are the successful CAS steps
  have hclr : 0 < nRet .closeOk s.threads → ∃ j outs, Ev.clear j outs ∈ s.trace := by
    intro h
    obtain ⟨e, he, hp⟩ := List.countP_pos_iff.mp
      (Nat.lt_of_lt_of_le h (reach_balanced wClr_sound maxSize timeout progs sched).counts.1)
    cases e with
    | clear j outs => exact ⟨j, outs, he⟩
    | _ => cases hp
  have hcas : Terminal s → nRet .closeOk s.threads = nCasOk s.trace :=
    (reach_balanced wCas_sound maxSize timeout progs sched).counts.2
  refine ⟨hpend, ?_, ?_, ?_⟩
  · intro hT later earlier j outs hsplit m hm
    have := reach_flushed maxSize timeout progs sched earlier j outs ⟨later, hsplit.symm⟩ m
    rw [hpend hT, List.count_nil] at this
    exact List.count_pos_iff.mp (Nat.lt_of_lt_of_le (List.count_pos_iff.mpr hm) this)
  · rintro ⟨t, ht, hr⟩
    exact hclr (List.sum_pos_iff_exists_pos_nat.mpr ⟨_, List.mem_map_of_mem ht, List.count_pos_iff.mpr hr⟩)
  · intro hT hcl
    have h1 : nCasOk s.trace = 1 := by
      rw [(reach_closedOnce maxSize timeout progs sched).count, hcl]; rfl
    exact hclr (by rw [hcas hT, h1]; exact Nat.one_pos)

/-- Exactly once after quiescence: with pairwise distinct pushed messages, in a terminal state
every message put before the successful Close's `Clear` has been delivered exactly once. -/
theorem C11_exactly_once (maxSize timeout : Int) (progs : List Prog) (sched : List Tid)
    (hd : (putLog (run (init maxSize timeout progs) sched).trace).Nodup) :
    let s := run (init maxSize timeout progs) sched
    Terminal s → ∀ later earlier j outs, s.trace = later ++ Ev.clear j outs :: earlier →
      ∀ m ∈ putLog earlier, (delivered s.trace).count m = 1 := by
  intro s hT later earlier j outs hsplit m hm
  have hmem := (C11_quiescent maxSize timeout progs sched).2.1 hT later earlier j outs hsplit m hm
  have hnd : (delivered s.trace).Nodup :=
    ((List.nodup_append.mp (List.nodup_append.mp (C11_at_most_once maxSize timeout progs sched hd)).1).1)
  rw [hnd.count]
  exact if_pos hmem

/-- Every group handed to `ReassemblyComplete`, by any thread under any schedule, is non-empty
and carries a single sequence number. -/
theorem C11_groups_uniform (maxSize timeout : Int) (progs : List Prog) (sched : List Tid) :
    let s := run (init maxSize timeout progs) sched
    ∀ j g, Ev.cb j (.group g) ∈ s.trace → g ≠ [] ∧ ∃ seq, ∀ m ∈ g, m.seq = seq := by
  intro s j g h
  exact (reach_uniform maxSize timeout progs sched).trace j (.group g) h g rfl

/-- Exactly one Close succeeds.  In every reachable state: at most one CompareAndSwap has
succeeded; the closed flag is set iff one has; as soon as ANY Close has run its CAS step
(successfully or not) exactly one CAS has succeeded; the Close calls that have returned nil
are at most the successful CAS steps; and in a terminal state the Close calls that returned
nil / the error are exactly the successful / failed CAS steps — so if Close was called at all,
exactly one call returned nil. -/
theorem C11_one_close (maxSize timeout : Int) (progs : List Prog) (sched : List Tid) :
    let s := run (init maxSize timeout progs) sched
    nCasOk s.trace ≤ 1 ∧
    (s.st.closed = true ↔ nCasOk s.trace = 1) ∧
    ((∃ j b, Ev.cas j b ∈ s.trace) → nCasOk s.trace = 1) ∧
    nRet .closeOk s.threads ≤ nCasOk s.trace ∧
    (Terminal s → nRet .closeOk s.threads = nCasOk s.trace ∧ nRet .closeErr s.threads = nCasFail s.trace) := by
  intro s
  have hc := reach_closedOnce maxSize timeout progs sched
  have hcount : nCasOk s.trace = if s.st.closed then 1 else 0 := hc.count
  have hok := (reach_balanced wCas_sound maxSize timeout progs sched).counts
  have herr := (reach_balanced wErr_sound maxSize timeout progs sched).counts
  refine ⟨?_, ?_, ?_, hok.1, fun hT => ⟨hok.2 hT, herr.2 hT⟩⟩
  · rw [hcount]; split <;> omega
  · rw [hcount]; constructor
    · intro h; simp [h]
    · intro h; split at h
      · assumption
      · omega
  · intro h; rw [hcount, hc.set h]; rfl

/-- No deadlock: in every reachable state every unfinished thread has an enabled step, and only
finished (or non-existent) threads have none.  No step of the model waits: each locked region
(Put, CleanUp, Clear) is a single step that contains no call-out, so the mutex is free at
every yield point; that the source has this shape is `C11_lock_facts` below, and the harness
watchdog checks that the real code completes every enumerated schedule. -/
theorem C11_no_deadlock (maxSize timeout : Int) (progs : List Prog) (sched : List Tid) :
    let s := run (init maxSize timeout progs) sched
    (∀ i t, s.threads[i]? = some t → t.stack ≠ [] → (step s i).isSome = true) ∧
    (∀ i, step s i = none ↔ ∀ t, s.threads[i]? = some t → t.stack = []) := by
  intro s
  exact ⟨fun i t ht hne => Option.isSome_iff_ne_none.mpr fun hn => hne ((step_eq_none_iff s i).mp hn t ht),
    step_eq_none_iff s⟩

/-! ### lock discipline, extracted from reassembler.go on every run (LA/Gen/LockFacts) -/

/-- every eventList method that touches seqs/events/lastSeq/hasLast starts with
`l.Lock(); defer l.Unlock()` or is called only from such methods, and nothing else touches them. -/
theorem C11_lock_facts_list_locked : LA.Gen.LockFacts.listStateOnlyUnderLock = true := by rfl

/-- `closed` is only ever accessed through sync/atomic. -/
theorem C11_lock_facts_closed_atomic : LA.Gen.LockFacts.closedOnlyAtomic = true := by rfl

/-- the only write to `closed` is one `CompareAndSwapInt32(&r.closed, 0, 1)` whose success
guards the only `Clear` call (the model's `cas`/`clear` frames). -/
theorem C11_lock_facts_single_cas : LA.Gen.LockFacts.closedSingleCasGuardsClear = true := by rfl

/-- no Stream call-out and no yield point lies inside a locked region, and the mutex is taken
nowhere but in the `Lock(); defer Unlock()` prologue of eventList methods. -/
theorem C11_lock_facts_no_callout : LA.Gen.LockFacts.noCalloutUnderLock = true := by rfl

/-- the model's atomic steps are exactly the eventList methods the Reassembler calls — Put,
CleanUp, Clear — and each of them runs under the lock from its first statement to its last (it has
the `Lock(); defer Unlock()` prologue itself, or does nothing but delegate to one method that has). -/
theorem C11_lock_facts_methods :
    LA.Gen.LockFacts.entryPoints = ["CleanUp", "Clear", "Put"] ∧ LA.Gen.LockFacts.entryPointsAtomic = true := ⟨rfl, rfl⟩

theorem C11_lock_facts : LA.Gen.LockFacts.allHold = true := by rfl

/-! ### non-vacuity: a concrete 3-thread system with a re-entrant callback -/

namespace Example

def hour : Int := 3600000000000

/-- thread 0 pushes a SYSCALL record and then its EOE; the callback that delivers that event
re-enters the Reassembler with a push (id 5) and a Maintain.  Thread 1 pushes a PROCTITLE
record (complete on arrival) for a later sequence and calls Maintain.  Thread 2 calls Close twice. -/
def progs : List Prog :=
  [ { main := [.push ⟨1, 100, 1300⟩ 0 0, .push ⟨2, 100, 1320⟩ 0 0],
      cbs := fun n _ => if n = 0 then [.push ⟨5, 102, 1300⟩ 0 0, .maintain 0] else [] },
    { main := [.push ⟨3, 101, 1327⟩ 0 0, .maintain 0], cbs := fun _ _ => [] },
    { main := [.close, .close], cbs := fun _ _ => [] } ]

/-- an interleaving (7 names no thread: such picks are skipped): thread 1's complete event
waits behind sequence 100; thread 0's EOE then evicts both events in one CleanUp; thread 0's
first callback re-enters and puts id 5; thread 2 closes and flushes id 5 while thread 0 is still
between its two callbacks; thread 0 delivers id 3 only after that Close has returned. -/
def sched : List Tid :=
  [0, 0, 0, 1, 1, 0, 0, 0, 0, 0, 2, 0, 2, 1, 2, 0, 2, 0, 1, 2, 0, 1, 2, 0, 1, 2, 0, 1, 2, 7, 0]

def final : Sys := run (init 4 hour progs) sched

example : Terminal final := by unfold Terminal; decide +kernel
/-- the hypothesis of `C11_at_most_once`/`C11_exactly_once` holds … -/
example : (putLog final.trace).Nodup := by decide +kernel
/-- … ids 1 and 3 were delivered by thread 0, id 5 (put by the re-entrant push before the
Clear) by the Close of thread 2; one Close succeeded, one failed; both Maintain calls came
after the CAS and report the error. -/
example : (delivered final.trace).map (·.id) = [3, 5, 1] := by decide +kernel
example : final.threads.map (·.rets) =
    [[.push, .push, .maintErr, .push], [.push, .maintErr], [.closeOk, .closeErr]] := by decide +kernel
/-- the hypothesis of `C11_quiescent`/`C11_exactly_once`: there is a Clear in the history and
messages were put before it. -/
example : final.trace = final.trace.take 5 ++
      Ev.clear 2 [.group [⟨5, 102, 1300⟩]] :: final.trace.drop 6 ∧
    (putLog (final.trace.drop 6)).map (·.id) = [5, 3, 1] := by decide +kernel
/-- a state in the middle of that run has pending thread-local messages and an unfinished,
enabled thread (`C11_no_deadlock`, `C11_conservation` are not vacuous). -/
example : (pending (run (init 4 hour progs) (sched.take 13)).threads).map (·.id) = [3, 5] ∧
    (step (run (init 4 hour progs) (sched.take 13)) 0).isSome = true := by decide +kernel

end Example

end LA.ReasmConc

/-! ### the code keeps nothing between calls that the model does not have -/

/-- Outside `init`, no function of the root package writes a package-level variable, hands the address of one to a function or calls a
sync/atomic method on one (regenerated list, see LA.Proofs.StateFacts): all state is in the object the model is given. -/
theorem C11_state_is_in_the_object : LA.StateFacts.ofPkg "" = [] := LA.StateFacts.ofPkg_root

/-- No component of a Reassembler's state counts operations in fewer than 64 bits: no integer field of at most 32 bits,
anywhere below the struct, grows by a constant small step per delivery, per call or per Close (read off running
Reassemblers through reflection on every run, fields found by behaviour, not by name; harness/cmd/extract/reasmfacts.go).
The model's state has sequence numbers, a flag and sizes, no counters; a counter that wraps after 2^32 events (a few hours
of a busy host, far beyond any history a check can run) would make whatever is decided from it wrong from then on. -/
theorem C11_no_narrow_operation_counters : LA.Gen.ReasmFacts.narrowCounters = [] := by rfl

/-- What the root package reads of the process it runs in is the clock (the Reassembler's deadlines, which the model is
given as readings), the process id (an input of SetPID) and the page size (the default receive buffer): `envReads`,
regenerated with go/types on every run, lists the package-level functions of os, os/user, os/exec, net, runtime,
math/rand, crypto/rand that are called, time.Now / Since / Until, file-system functions of path/filepath and process
queries of syscall. Nothing else of the machine — processors, environment variables, files, random numbers — can
influence what the Reassembler or the client does. -/
theorem C11_environment_is_clock_pid_pagesize : LA.StateFacts.envOf "" = LA.StateFacts.rootEnv := LA.StateFacts.envOf_root
