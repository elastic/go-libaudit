/-
Lemmas about Model.Auparse. Outcomes of type `Res` are handled by a few rules (what a `>>=`, an `if`, a slice in
range answer); the header parser is characterised by the cut of a line at ( . : ), in both directions; the value matcher
on a quoted string, assignment to a field map and to ToMapStr's map; last, that no path of the parser ends in `panic`.
-/
import LA.Model.Auparse
import LA.Proofs.Str

namespace LA.Auparse
open LA

theorem slice_ok {s : Bytes} {i j : Int} (h : 0 ≤ i ∧ i ≤ j ∧ j ≤ s.length) :
    slice s i j = Res.ok ((s.drop i.toNat).take (j.toNat - i.toNat)) := by
  simp [slice, h]

theorem slice_eq_ok {s a b c : Bytes} {i j : Int} (hs : s = a ++ b ++ c) (hi : i = a.length)
    (hj : j = i + b.length) : slice s i j = Res.ok b := by
  subst hs hi hj
  rw [slice_ok (by simp only [List.length_append]; omega), Int.toNat_natCast,
    show ((a.length : Int) + b.length).toNat - a.length = b.length by omega, List.append_assoc, List.drop_left, List.take_left]

theorem slice_add_ok {s : Bytes} {i n : Nat} (h : i + n ≤ s.length) :
    slice s i ((i : Int) + n) = Res.ok ((s.drop i).take n) := by
  rw [← Int.natCast_add, slice_ok ⟨Int.natCast_nonneg i, Int.ofNat_le.mpr (Nat.le_add_right i n), Int.ofNat_le.mpr h⟩,
    Int.toNat_natCast, Int.toNat_natCast, Nat.add_sub_cancel_left]

/-- the slice between two separators of a header: `n` is where the first stands and `n + (1 + a.length)`, in the shape
`headerIdx` computes it, where the next search stopped (`indexOf_step`). -/
theorem slice_of_drop {s a rest : Bytes} {n x : Nat} (h : s.drop n = x :: (a ++ rest)) :
    slice s ((n : Int) + 1) ((n + (1 + a.length) : Nat) : Int) = Res.ok a := by
  have hn : n < s.length := Nat.lt_of_not_le fun hle => by rw [List.drop_of_length_le hle] at h; cases h
  refine slice_eq_ok (a := s.take n ++ [x]) (c := rest) ?_ (by simp; omega) (by simp; omega)
  rw [List.append_assoc, List.append_assoc, List.singleton_append, ← h, List.take_append_drop]

theorem slice_length {s t : Bytes} {i j : Int} (h : slice s i j = Res.ok t) : t.length ≤ s.length := by
  unfold slice at h
  split at h
  · cases h
    exact Nat.le_trans (List.length_take_le' ..) (by rw [List.length_drop]; exact Nat.sub_le ..)
  · cases h

theorem bind_eq_ok {α β : Type} {x : Res α} {f : α → Res β} {b : β} (h : (x >>= f) = Res.ok b) :
    ∃ a, x = Res.ok a ∧ f a = Res.ok b := by
  cases x with
  | ok a => exact ⟨a, rfl, h⟩
  | err c => cases h
  | panic => cases h

/-- one step of `headerIdx`: the search starts on the previous separator `x` and leaves the text standing on `c`. -/
theorem indexOf_step {c x n : Nat} {line a b : Bytes} (hx : x ≠ c) (hl : line.drop n = x :: (a ++ c :: b)) (ha : c ∉ a) :
    indexOf c (line.drop n) = some (1 + a.length) ∧ line.drop (n + (1 + a.length)) = c :: b := by
  constructor
  · rw [hl]
    have := indexOf_append_sep (c := c) (a := x :: a) b (by simp [ha, Ne.symm hx])
    simpa [Nat.add_comm] using this
  · rw [← List.drop_drop, hl, Nat.add_comm 1, List.drop_succ_cons, List.drop_left]

theorem indexOf_step_inv {c x n i : Nat} {line t : Bytes} (hx : x ≠ c) (hl : line.drop n = x :: t)
    (h : indexOf c (line.drop n) = some i) : ∃ a b, t = a ++ c :: b ∧ c ∉ a ∧ line.drop (n + i) = c :: b := by
  rw [hl] at h
  obtain ⟨a', b, e, na, rfl⟩ := indexOf_split h
  cases a' with
  | nil => cases e; exact absurd rfl hx
  | cons y a =>
    obtain ⟨rfl, rfl⟩ := List.cons.inj e
    refine ⟨a, b, rfl, fun hh => na (by simp [hh]), ?_⟩
    rw [← List.drop_drop, hl, List.length_cons, List.drop_succ_cons]
    exact List.drop_left ..

theorem indexOfMessage_lt {l : Bytes} {i : Nat} (h : indexOfMessage l = some i) : i < l.length := by
  fun_induction indexOfMessage l generalizing i with
  | case1 => cases h
  | case2 => cases h; exact Nat.zero_lt_succ _
  | case3 b bs _ ih =>
    obtain ⟨j, hj, rfl⟩ := Option.map_eq_some_iff.mp h
    exact Nat.succ_lt_succ (ih hj)

theorem optInt_indexOfMessage (l : Bytes) : -1 ≤ optInt (indexOfMessage l) ∧ optInt (indexOfMessage l) ≤ l.length := by
  cases hi : indexOfMessage l with
  | none => simp [optInt]
  | some i =>
    have := indexOfMessage_lt hi
    simp only [optInt]
    omega

theorem headerIdx_decomp (pre S M N rest : Bytes) (h1 : (40 : Nat) ∉ pre) (h2 : (46 : Nat) ∉ S) (h3 : (58 : Nat) ∉ M)
    (h4 : (41 : Nat) ∉ N) :
    headerIdx (pre ++ 40 :: (S ++ 46 :: (M ++ 58 :: (N ++ 41 :: rest)))) =
      some (pre.length, pre.length + (1 + S.length), pre.length + (1 + S.length) + (1 + M.length),
        pre.length + (1 + S.length) + (1 + M.length) + (1 + N.length)) := by
  have d1 : (pre ++ 40 :: (S ++ 46 :: (M ++ 58 :: (N ++ 41 :: rest)))).drop pre.length = _ := List.drop_left ..
  obtain ⟨i2, d2⟩ := indexOf_step (by decide) d1 h2
  obtain ⟨i3, d3⟩ := indexOf_step (by decide) d2 h3
  obtain ⟨i4, -⟩ := indexOf_step (by decide) d3 h4
  simp only [headerIdx, indexOf_append_sep _ h1, i2, i3, i4]

theorem headerIdx_cases (line : Bytes) :
    headerIdx line = none ∨ ∃ pre S M N rest, (40 : Nat) ∉ pre ∧ (46 : Nat) ∉ S ∧ (58 : Nat) ∉ M ∧ (41 : Nat) ∉ N ∧
      line = pre ++ 40 :: (S ++ 46 :: (M ++ 58 :: (N ++ 41 :: rest))) := by
  fun_cases headerIdx line with
  | case1 | case2 | case3 | case4 => exact .inl rfl   -- one of the four searches fails
  | case5 a h1 d h2 s h3 e h4 =>
    obtain ⟨pre, t1, rfl, n1, rfl⟩ := indexOf_split h1
    have d1 : (pre ++ 40 :: t1).drop pre.length = _ := List.drop_left ..
    obtain ⟨S, t2, rfl, n2, d2⟩ := indexOf_step_inv (by decide) d1 h2
    obtain ⟨M, t3, rfl, n3, d3⟩ := indexOf_step_inv (by decide) d2 h3
    obtain ⟨N, rest, rfl, n4, -⟩ := indexOf_step_inv (by decide) d3 h4
    exact .inr ⟨pre, S, M, N, rest, n1, n2, n3, n4, rfl⟩

theorem headerIdx_some {line : Bytes} {q : Nat × Nat × Nat × Nat} (h : headerIdx line = some q) :
    ∃ pre S M N rest, (40 : Nat) ∉ pre ∧ (46 : Nat) ∉ S ∧ (58 : Nat) ∉ M ∧ (41 : Nat) ∉ N ∧
      line = pre ++ 40 :: (S ++ 46 :: (M ++ 58 :: (N ++ 41 :: rest))) :=
  (headerIdx_cases line).resolve_left (by rw [h]; nofun)

theorem parseAuditHeader_of_none {line : Bytes} (h : headerIdx line = none) : parseAuditHeader line = Res.err "hdr" := by
  rw [parseAuditHeader, h]

theorem parseAuditHeader_decomp (pre S M N rest : Bytes) (h1 : (40 : Nat) ∉ pre) (h2 : (46 : Nat) ∉ S)
    (h3 : (58 : Nat) ∉ M) (h4 : (41 : Nat) ∉ N) :
    parseAuditHeader (pre ++ 40 :: (S ++ 46 :: (M ++ 58 :: (N ++ 41 :: rest)))) =
      match headerNums S M N with
      | some (sec, nsec, seq) => Res.ok (sec, nsec, seq, ((pre.length + (1 + S.length) + (1 + M.length) + (1 + N.length) : Nat) : Int))
      | none => Res.err "hdr" := by
  have d1 : (pre ++ 40 :: (S ++ 46 :: (M ++ 58 :: (N ++ 41 :: rest)))).drop pre.length = _ := List.drop_left ..
  obtain ⟨-, d2⟩ := indexOf_step (by decide) d1 h2
  obtain ⟨-, d3⟩ := indexOf_step (by decide) d2 h3
  rw [parseAuditHeader, headerIdx_decomp pre S M N rest h1 h2 h3 h4]
  simp only
  rw [slice_of_drop d1, slice_of_drop d2, slice_of_drop d3]
  simp only
  cases headerNums S M N <;> rfl

/-- A line decomposes when it is cut at '(' '.' ':' ')' — the first '(' of the line, the first '.'
after it, the first ':' after that, the first ')' after that — into three digit strings that are a
valid int64, int64 and uint32. -/
def Decomposes (line : Bytes) (sec nsec : Int) (seq : Nat) (e : Int) : Prop :=
  ∃ pre S M N rest, (40 : Nat) ∉ pre ∧ (46 : Nat) ∉ S ∧ (58 : Nat) ∉ M ∧ (41 : Nat) ∉ N ∧
    line = pre ++ 40 :: (S ++ 46 :: (M ++ 58 :: (N ++ 41 :: rest))) ∧
    headerNums S M N = some (sec, nsec, seq) ∧
    e = ((pre.length + (1 + S.length) + (1 + M.length) + (1 + N.length) : Nat) : Int)

theorem parseAuditHeader_ok_decomp {line : Bytes} {sec nsec : Int} {seq : Nat} {e : Int}
    (h : parseAuditHeader line = Res.ok (sec, nsec, seq, e)) : Decomposes line sec nsec seq e := by
  rcases headerIdx_cases line with hi | ⟨pre, S, M, N, rest, n1, n2, n3, n4, el⟩
  · rw [parseAuditHeader_of_none hi] at h
    cases h
  refine ⟨pre, S, M, N, rest, n1, n2, n3, n4, el, ?_⟩
  rw [el, parseAuditHeader_decomp pre S M N rest n1 n2 n3 n4] at h
  cases hn : headerNums S M N with
  | none => simp [hn] at h
  | some r =>
    obtain ⟨a, b, c⟩ := r
    simp only [hn, Res.ok.injEq, Prod.mk.injEq] at h
    obtain ⟨rfl, rfl, rfl, rfl⟩ := h
    exact ⟨rfl, rfl⟩

theorem parseAuditHeader_cases (line : Bytes) :
    parseAuditHeader line = Res.err "hdr" ∨ ∃ q, parseAuditHeader line = Res.ok q := by
  rcases headerIdx_cases line with hi | ⟨pre, S, M, N, rest, n1, n2, n3, n4, rfl⟩
  · exact .inl (parseAuditHeader_of_none hi)
  rw [parseAuditHeader_decomp pre S M N rest n1 n2 n3 n4]
  split
  · exact .inr ⟨_, rfl⟩
  · exact .inl rfl

theorem parseAuditHeader_end_lt {line : Bytes} {sec nsec : Int} {seq : Nat} {e : Int}
    (h : parseAuditHeader line = Res.ok (sec, nsec, seq, e)) : 0 ≤ e ∧ e < line.length := by
  obtain ⟨pre, S, M, N, rest, -, -, -, -, rfl, -, rfl⟩ := parseAuditHeader_ok_decomp h
  simp only [List.length_append, List.length_cons]
  omega

theorem parse_offset {typ : Nat} {s : Bytes} {m : Msg} (h : parse typ s = Res.ok m) :
    -1 ≤ m.offset ∧ m.offset ≤ m.raw.length := by
  obtain ⟨⟨sec, nsec, seq, e⟩, -, h⟩ := bind_eq_ok h
  obtain ⟨tail, ht, h⟩ := bind_eq_ok h
  cases h
  have := optInt_indexOfMessage tail
  have := slice_length ht
  simp only
  omega

theorem parseLogLine_ok {line : Bytes} {m : Msg} (h : parseLogLine line = Res.ok m) : ∃ typ s, parse typ s = Res.ok m := by
  -- past the two tests on where "msg=" stands, the slice of the type name and the type lookup, the answer is `parse`'s
  unfold parseLogLine at h
  simp only at h
  split at h
  · cases h
  split at h
  · cases h
  obtain ⟨tn, -, h⟩ := bind_eq_ok h
  split at h
  · cases h
  · obtain ⟨msg, -, h⟩ := bind_eq_ok h
    exact ⟨_, _, h⟩

/-- `pre` is `type=` and `sp` the space. `109` is `m`: no `m` before the `msg=` that was written, so that is the one
strings.Index finds. -/
theorem parseLogLine_split {pre name m : Bytes} {sp t : Nat} (hl : pre.length = 5) (hp : (109 : Nat) ∉ pre ++ name ++ [sp])
    (ht : MsgType.getType name = some t) : parseLogLine (pre ++ name ++ sp :: msgToken ++ m) = parse t m := by
  have e : pre ++ name ++ sp :: msgToken ++ m = (pre ++ name ++ [sp]) ++ msgToken ++ m := by
    simp only [List.append_assoc, List.cons_append, List.nil_append]
  have hidx : optInt (indexOfSub msgToken (pre ++ name ++ sp :: msgToken ++ m)) = ((name.length + 6 : Nat) : Int) := by
    rw [e, msgToken, indexOfSub_append m hp, optInt, List.length_append, List.length_append, hl, List.length_singleton,
      Nat.add_comm 5, Nat.add_assoc]
  rw [parseLogLine, hidx, if_neg (by simp; omega), if_neg (by omega),
    slice_eq_ok (a := pre) (b := name) (c := sp :: msgToken ++ m) (by simp only [List.append_assoc]) (by omega) (by omega)]
  simp only [bind, Bind.bind, ht, sliceFrom]
  rw [slice_eq_ok (a := pre ++ name ++ sp :: msgToken) (b := m) (c := []) (List.append_nil _).symm
    (by simp only [List.length_append, List.length_cons, hl, msgToken, List.length_nil]; omega)
    (by simp only [List.length_append, List.length_cons, hl, msgToken, List.length_nil]; omega)]

/-! ### the value matcher on a quoted string; assignment to a field map and to the map of ToMapStr -/

theorem matchQuoted_step {q b c : Nat} (t : Bytes) (hb : b ≠ q) (hc : b = 92 → c ≠ q) :
    matchQuoted q (b :: c :: t) = (matchQuoted q (c :: t)).map (· + 1) := by
  have h1 : (b == 92 && c == q) = false := by
    rw [Bool.and_eq_false_iff, beq_eq_false_iff_ne, beq_eq_false_iff_ne]
    exact Decidable.not_or_of_imp hc
  rw [matchQuoted, h1, if_neg Bool.false_ne_true, if_neg (by rwa [beq_iff_eq])]

theorem matchQuoted_safe (v rest : Bytes) (hq : (34 : Nat) ∉ v)
    (hl : ∀ b, v.getLast? = some b → b ≠ 92) : matchQuoted 34 (v ++ 34 :: rest) = some (v.length + 1) := by
  induction v with
  | nil => cases rest <;> simp [matchQuoted]
  | cons b bs ih =>
    have hb : b ≠ 34 := fun h => hq (by simp [h])
    have ih' := ih (fun h => hq (List.mem_cons_of_mem _ h)) fun x hx => hl x (by rw [List.getLast?_cons, hx]; rfl)
    -- the byte after `b` is a byte of `v`, or it is the closing quote and `b` the last byte of `v`
    cases bs with
    | nil =>
      rw [List.cons_append, List.nil_append, matchQuoted_step rest hb (fun h _ => hl b rfl h), ← List.nil_append (34 :: rest), ih']
      rfl
    | cons c cs =>
      rw [List.cons_append, List.cons_append, matchQuoted_step _ hb (fun _ h => hq (by simp [h])), ← List.cons_append, ih']
      rfl

theorem matchValue_quoted (v rest : Bytes) (hq : (34 : Nat) ∉ v) (hl : ∀ b, v.getLast? = some b → b ≠ 92) :
    matchValue (34 :: (v ++ 34 :: rest)) = some (v.length + 2) := by
  simp [matchValue, isPlainValByte, matchQuoted_safe v rest hq hl]

theorem fmAdd_fresh (fm : FieldMap) (k : Bytes) (f : Field) (h : ∀ q ∈ fm, q.1 ≠ k) : fmAdd fm k f = fm ++ [(k, f)] := by
  unfold fmAdd
  have : fm.any (fun p => p.1 == k) = false := by
    rw [List.any_eq_false]
    intro q hq
    simpa using h q hq
  simp [this]

theorem find?_map_update {β : Type} (m : List (Bytes × β)) {k k' : Bytes} (v : β) (h : (k == k') = false) :
    (m.map (fun p => if p.1 == k then (k, v) else p)).find? (fun p => p.1 == k') = m.find? (fun p => p.1 == k') := by
  induction m with
  | nil => rfl
  | cons p m ih =>
    rw [List.map_cons, List.find?_cons, List.find?_cons, ih]
    by_cases hp : p.1 == k
    · rw [if_pos hp, beq_iff_eq.mp hp, h]
    · rw [if_neg hp]

theorem mget_mset (m : List (Bytes × MVal)) (k k' : Bytes) (v : MVal) :
    mget (mset m k v) k' = if k == k' then some v else mget m k' := by
  unfold mget mset
  induction m with
  | nil => cases h : k == k' <;> simp [h]
  | cons p m ih =>
    rw [List.any_cons, List.map_cons, List.cons_append]
    cases hp : p.1 == k
    · -- the head stays in front of whichever list the assignment makes of the tail
      rw [Bool.false_or, if_neg Bool.false_ne_true, ← apply_ite (List.cons p), List.find?_cons, List.find?_cons]
      cases h' : p.1 == k'
      · exact ih
      · rw [← beq_iff_eq.mp h', Bool.beq_comm, hp]; rfl
    · -- the head is replaced
      rw [Bool.true_or, if_pos rfl, if_pos rfl, List.find?_cons, List.find?_cons, beq_iff_eq.mp hp]
      cases h : k == k'
      · rw [find?_map_update m v h]; rfl
      · rfl

/-! ### absence of `panic`: `ok` and `err` are other constructors (`nofun`); `>>=`, `if` and a slice in range keep it out -/

theorem bind_no_panic {α β : Type} {x : Res α} {f : α → Res β} (hx : x ≠ Res.panic)
    (hf : ∀ a, x = Res.ok a → f a ≠ Res.panic) : (x >>= f) ≠ Res.panic := by
  cases x with
  | ok a => exact hf a rfl
  | err c => nofun
  | panic => exact absurd rfl hx

theorem ite_no_panic {α : Type} {c : Prop} [Decidable c] {x y : Res α} (hx : c → x ≠ Res.panic)
    (hy : ¬ c → y ≠ Res.panic) : (if c then x else y) ≠ Res.panic := by
  split
  · exact hx ‹_›
  · exact hy ‹_›

theorem slice_no_panic {s : Bytes} {i j : Int} (h : 0 ≤ i ∧ i ≤ j ∧ j ≤ s.length) : slice s i j ≠ Res.panic := by
  rw [slice, if_pos h]; nofun

theorem parseAuditHeader_no_panic (line : Bytes) : parseAuditHeader line ≠ Res.panic := by
  rcases parseAuditHeader_cases line with h | ⟨q, h⟩ <;> rw [h] <;> nofun

theorem parse_no_panic (typ : Nat) (s : Bytes) : parse typ s ≠ Res.panic :=
  bind_no_panic (parseAuditHeader_no_panic _) fun _ h =>
    bind_no_panic (slice_no_panic (by have := parseAuditHeader_end_lt h; omega)) fun _ _ => nofun

theorem parseLogLine_no_panic (line : Bytes) : parseLogLine line ≠ Res.panic := by
  unfold parseLogLine
  refine ite_no_panic (fun _ => nofun) fun h1 => ite_no_panic (fun _ => nofun) fun h6 => ?_
  cases h : indexOfSub msgToken line with
  | none => simp [h, optInt] at h1
  | some i =>
    have hb : i + 4 ≤ line.length := indexOfSub_bound h
    simp only [h, optInt] at h6 ⊢
    refine bind_no_panic (slice_no_panic (by omega)) fun _ _ => ?_
    split
    · nofun
    · exact bind_no_panic (slice_no_panic (by omega)) fun _ _ => parse_no_panic _ _

theorem hexToIP_no_panic (h : Bytes) : hexToIP h ≠ Res.panic := by
  fun_cases hexToIP h <;> nofun

theorem parseSockaddr_no_panic (s : Bytes) : parseSockaddr s ≠ Res.panic := by
  -- every slice is guarded by a length test; what the slices return does not matter
  unfold parseSockaddr
  refine ite_no_panic (fun _ => nofun) fun h4 =>
    bind_no_panic (slice_no_panic (by omega)) fun a _ => bind_no_panic (slice_no_panic (by omega)) fun b _ => ?_
  split
  · nofun
  refine ite_no_panic (fun _ => bind_no_panic (slice_no_panic (by omega)) fun r _ => ?_) fun _ =>
    ite_no_panic (fun _ => ite_no_panic (fun _ => nofun) fun h16 =>
      bind_no_panic (slice_no_panic (by omega)) fun ps _ => ?_) fun _ =>
    ite_no_panic (fun _ => ite_no_panic (fun _ => nofun) fun h48 =>
      bind_no_panic (slice_no_panic (by omega)) fun ps _ => ?_) fun _ => ite_no_panic (fun _ => nofun) fun _ => nofun
  · split <;> nofun
  · split
    · nofun
    · exact bind_no_panic (slice_no_panic (by omega)) fun _ _ => bind_no_panic (hexToIP_no_panic _) fun _ _ => nofun
  · split
    · nofun
    · refine bind_no_panic (slice_no_panic (by omega)) fun _ _ => ?_
      split
      · nofun
      · exact bind_no_panic (slice_no_panic (by omega)) fun _ _ => bind_no_panic (hexToIP_no_panic _) fun _ _ => nofun

-- the enrichment steps answer `ok` or `err` on every line of their definitions (`fun_cases`: one case per line)

theorem hexDecode_no_panic (fm : FieldMap) (k : Bytes) : hexDecode fm k ≠ Res.panic := by
  fun_cases hexDecode fm k <;> nofun

theorem archStep_no_panic (fm : FieldMap) : archStep fm ≠ Res.panic := by
  fun_cases archStep fm <;> nofun

theorem syscallStep_no_panic (fm : FieldMap) : syscallStep fm ≠ Res.panic := by
  fun_cases syscallStep fm <;> nofun

theorem signalStep_no_panic (fm : FieldMap) : signalStep fm ≠ Res.panic := by
  fun_cases signalStep fm <;> nofun

theorem saddrStep_no_panic (fm : FieldMap) : saddrStep fm ≠ Res.panic := by
  fun_cases saddrStep fm with
  | case1 | case2 | case3 => nofun
  | case4 f _ h => exact absurd h (parseSockaddr_no_panic _)

theorem execveArgsLoop_no_panic (fm : FieldMap) (n i : Nat) : execveArgsLoop fm n i ≠ Res.panic := by
  fun_induction execveArgsLoop fm n i with
  | case1 | case2 => nofun
  | case3 _ _ _ _ _ _ _ ih => exact ih

theorem execveStep_no_panic (fm : FieldMap) : execveStep fm ≠ Res.panic := by
  fun_cases execveStep fm with
  | case1 | case2 => nofun
  | case3 => exact execveArgsLoop_no_panic _ _ _

theorem enrichData_no_panic (typ : Nat) (fm : FieldMap) : (enrichData typ fm).1 ≠ Res.panic := by
  -- `ite_no_panic` on the chain of `if typ == …` as it stands leaves the (large) field-map argument of each step alone
  unfold enrichData
  refine ite_no_panic (fun _ => ?_) fun _ => ite_no_panic (fun _ => ?_) fun _ => ite_no_panic (fun _ => ?_) fun _ =>
    ite_no_panic (fun _ => ?_) fun _ => ite_no_panic (fun _ => ?_) fun _ => ite_no_panic (fun _ => ?_) fun _ =>
    ite_no_panic (fun _ => ?_) fun _ => ite_no_panic (fun _ => nofun) fun _ => ite_no_panic (fun _ => nofun) fun _ => nofun
  · exact bind_no_panic (signalStep_no_panic _) fun _ _ => bind_no_panic (archStep_no_panic _) fun _ _ =>
      bind_no_panic (syscallStep_no_panic _) fun _ _ => hexDecode_no_panic _ _
  · exact bind_no_panic (archStep_no_panic _) fun _ _ =>
      bind_no_panic (syscallStep_no_panic _) fun _ _ => hexDecode_no_panic _ _
  · exact saddrStep_no_panic _
  · exact hexDecode_no_panic _ _
  · exact hexDecode_no_panic _ _
  · exact hexDecode_no_panic _ _
  · exact execveStep_no_panic _

theorem dataOf_no_panic {m : Msg} (h : m.offset ≤ m.raw.length) : (dataOf m).data ≠ Res.panic := by
  unfold dataOf
  split
  · nofun
  · rw [sliceFrom, slice_ok (by omega)]
    simp only
    generalize hr : enrichData m.typ _ = r
    have : r.1 ≠ Res.panic := hr ▸ enrichData_no_panic _ _
    obtain ⟨r1, r2⟩ := r
    cases r1 with
    | ok fm => nofun
    | err c => nofun
    | panic => exact absurd rfl this

end LA.Auparse
