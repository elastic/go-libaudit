/-
rule.Build step by step. The value of a filter in normal form: the side conditions of a numeric field (list, operator)
do not look at the value text, those of a string field only at its length, and the value parser does not look at the
rule (`filterValue_eq`). What each successful step appended (`addFilter_some`, …). Then induction over everything Build
accumulates (`ruleDataOf_induct`); its first use: every triple and string of a built rule is there for a reason (`Built`).
-/
import LA.Model.Rule
import LA.Proofs.OptionLemmas

namespace LA.Rule
open LA

theorem lookupB_mem {α : Type} {l : List (Bytes × α)} {k : Bytes} {v : α} (h : lookupB l k = some v) : ∃ p ∈ l, p.2 = v := by
  obtain ⟨p, hf, rfl⟩ := Option.map_eq_some_iff.mp h
  exact ⟨p, List.mem_of_find?_eq_some hf, rfl⟩

open LA.Gen.RuleTables

/-- the side conditions addFilter puts on a numeric field: the list it may be used on, the operators it takes. -/
def numGuard (fl f opc : Nat) : Bool :=
  if uidFields.contains f then true
  else if gidFields.contains f then true
  else if f == exitField then fl == exitFilter
  else if f == msgTypeField then fl == userFilter || fl == excludeFilter
  else if f == permField then fl == exitFilter && opc == eqOp
  else if f == filetypeField then fl == exitFilter
  else if f == inodeField then fl == exitFilter && (opc == eqOp || opc == neOp)
  else if f == saddrFamField then true
  else if [devMajorField, devMinorField, successField, ppidField].contains f then fl == exitFilter
  else true

def numValue (env : Env) (f : Nat) (rhs : Bytes) : Option Nat :=
  if uidFields.contains f then getUID env rhs
  else if gidFields.contains f then getGID env rhs
  else if f == exitField then (getExitCode rhs).map toU32
  else if f == msgTypeField then getAuditMsgType rhs
  else if f == permField then getPerm rhs
  else if f == filetypeField then getFiletype rhs
  else if f == inodeField then parseNum rhs
  else if f == saddrFamField then (parseNum rhs).bind (fun n => if n == 2 || n == 10 then some n else none)
  else parseNum rhs

/-- the side conditions on a string-valued field: exit-only fields, length limits. -/
def strGuard (fl f : Nat) (rhs : Bytes) : Bool :=
  if exitOnlyStringFields.contains f && fl != exitFilter then false
  else if f == keyField && rhs.length > maxKeyLength then false
  else rhs.length ≤ pathMax

/-! The model writes a guard as `if fl != X then none else …`, one test after the other; the normal form has one Boolean.
A guard and a value that branch on the same test `c` branch together (`guard_ite`; `_true`, `_false` where only the guard
branches). -/

theorem ite_bnot_none {α : Type} (b : Bool) (x : Option α) :
    (if (!b) = true then none else x) = if b = true then x else none := by cases b <;> rfl

theorem ite_and_none {α : Type} (a b : Bool) (x : Option α) :
    (if (a && b) = true then x else none) = if a = true then (if b = true then x else none) else none := by
  cases a <;> cases b <;> rfl

theorem guard_ite {α β : Type} (c g G : Bool) (x X : Option α) (F : α → β) :
    (if (if c = true then g else G) = true then (if c = true then x else X).map F else none) =
      if c = true then (if g = true then x.map F else none) else (if G = true then X.map F else none) := by
  cases c <;> rfl

theorem guard_ite_true {α : Type} (c g : Bool) (x : Option α) :
    (if (if c = true then g else true) = true then x else none) = if c = true then (if g = true then x else none) else x := by
  cases c <;> rfl

theorem guard_ite_false {α : Type} (c G : Bool) (x : Option α) :
    (if (if c = true then false else G) = true then x else none) = if c = true then none else (if G = true then x else none) := by
  cases c <;> rfl

theorem archField_not_string : stringFields.contains archField = false := by decide +kernel

theorem filterValue_eq (env : Env) (r : RuleData) (f opc : Nat) (rhs : Bytes) :
    filterValue env r f opc rhs =
      if stringFields.contains f then (if strGuard r.flags f rhs then some (rhs.length, some rhs, none) else none)
      else if f == archField then
        (if opc == eqOp || opc == neOp then (getArch rhs).map (fun p => (p.2, none, some p.1)) else none)
      else if numGuard r.flags f opc then (numValue env f rhs).map (fun v => (v, none, none)) else none := by
  -- the string-valued fields and arch are none of the four kinds tested before them
  have disj : ∀ x ∈ archField :: stringFields, uidFields.contains x = false ∧ gidFields.contains x = false ∧
      (x == exitField) = false ∧ (x == msgTypeField) = false := by decide +kernel
  unfold filterValue
  by_cases hs : stringFields.contains f = true
  · obtain ⟨d1, d2, d3, d4⟩ := disj f (List.mem_cons_of_mem _ (List.contains_iff_mem.mp hs))
    simp only [d1, d2, d3, d4, hs, strGuard, Bool.false_eq_true, if_false, if_true, guard_ite_false, decide_eq_true_eq, ← Nat.not_lt,
      ite_not, gt_iff_lt]
  by_cases ha : (f == archField) = true
  · cases eq_of_beq ha
    obtain ⟨d1, d2, d3, d4⟩ := disj archField List.mem_cons_self
    simp only [d1, d2, d3, d4, archField_not_string, Bool.false_eq_true, if_false, beq_self_eq_true, if_true, bne, ← Bool.not_or, ite_bnot_none]
  have saddr : ((parseNum rhs).bind fun n => if n == 2 || n == 10 then some n else none).map
        (fun v => ((v, none, none) : Nat × Option Bytes × Option Bytes)) =
      (parseNum rhs).bind fun n => if n == 2 || n == 10 then some (n, none, none) else none := by
    cases parseNum rhs with
    | none => rfl
    | some n => simp only [Option.bind_some]; split <;> rfl
  -- numGuard and numValue are two cascades over the tests of filterValue's own: fused test by test they are that cascade
  unfold numGuard numValue
  simp only [hs, ha, if_false, Bool.false_eq_true, bne, ← Bool.not_or, ite_bnot_none, guard_ite, guard_ite_true, if_true, ite_and_none,
    Option.map_map, Function.comp_def, saddr]

theorem filterValue_some {env : Env} {r : RuleData} {f opc : Nat} {rhs : Bytes} {v : Nat} {s a : Option Bytes}
    (h : filterValue env r f opc rhs = some (v, s, a)) :
    (stringFields.contains f = true ∧ strGuard r.flags f rhs = true ∧ v = rhs.length ∧ s = some rhs ∧ a = none) ∨
    (stringFields.contains f = false ∧ f = archField ∧ s = none ∧ ∃ p, getArch rhs = some p ∧ v = p.2 ∧ a = some p.1) ∨
    (stringFields.contains f = false ∧ (f == archField) = false ∧ numGuard r.flags f opc = true ∧
      numValue env f rhs = some v ∧ s = none ∧ a = none) := by
  rw [filterValue_eq] at h
  refine ite_some_or h (fun hs h => ?str) fun hs h => ite_some_or h (fun ha h => ?arch) fun ha h => ?num
  case str =>
    obtain ⟨hg, h⟩ := Option.ite_none_right_eq_some.mp h
    cases h
    exact ⟨hs, hg, rfl, rfl, rfl⟩
  case arch =>
    obtain ⟨_, h⟩ := Option.ite_none_right_eq_some.mp h
    obtain ⟨p, hp, hq⟩ := Option.map_eq_some_iff.mp h
    cases hq
    exact ⟨Bool.eq_false_iff.mpr hs, eq_of_beq ha, rfl, p, hp, rfl, rfl⟩
  case num =>
    obtain ⟨hg, h⟩ := Option.ite_none_right_eq_some.mp h
    obtain ⟨w, hw, hq⟩ := Option.map_eq_some_iff.mp h
    cases hq
    exact ⟨Bool.eq_false_iff.mpr hs, Bool.eq_false_iff.mpr ha, hg, hw, rfl, rfl⟩

theorem filterValue_num {env : Env} {r : RuleData} {f opc : Nat} {rhs : Bytes} {v : Nat} {s a : Option Bytes}
    (hs : stringFields.contains f = false) (harch : (f == archField) = false)
    (h : filterValue env r f opc rhs = some (v, s, a)) : numGuard r.flags f opc = true ∧ numValue env f rhs = some v := by
  rcases filterValue_some h with ⟨hs', _⟩ | ⟨_, rfl, _⟩ | ⟨_, _, hg, hv, _⟩
  · rw [hs] at hs'; cases hs'
  · simp at harch
  · exact ⟨hg, hv⟩

theorem strGuard_le {fl f : Nat} {rhs : Bytes} (h : strGuard fl f rhs = true) : rhs.length ≤ 4096 := by
  have pm : pathMax = 4096 := by decide
  unfold strGuard at h
  split at h
  · cases h
  · split at h
    · cases h
    · rw [pm] at h; simpa using h

theorem filterValue_flags (env : Env) (r1 r2 : RuleData) (h : r1.flags = r2.flags) (f opc : Nat) (rhs : Bytes) :
    filterValue env r1 f opc rhs = filterValue env r2 f opc rhs := by
  rw [filterValue_eq, filterValue_eq, h]

theorem addFilter_some {env : Env} {r r' : RuleData} {l o rhs : Bytes} (h : addFilter env r l o rhs = some r') :
    ∃ opc f v s a, lookupB operatorsTable o = some opc ∧ lookupB fieldsTable l = some f ∧
      (r.flags == excludeFilter && !(excludeOkFields.contains f)) = false ∧
      filterValue env r f opc rhs = some (v, s, a) ∧
      r' = { r with trips := r.trips ++ [(f, v, opc)], strings := r.strings ++ s.toList, arch := a.getD r.arch } := by
  unfold addFilter at h
  split at h
  · rename_i opc f hop hf
    obtain ⟨hex, h⟩ := Option.ite_none_left_eq_some.mp h
    obtain ⟨⟨v, s, a⟩, hv, rfl⟩ := Option.map_eq_some_iff.mp h
    exact ⟨opc, f, v, s, a, hop, hf, Bool.eq_false_iff.mpr hex, hv, by cases s <;> cases a <;> simp⟩
  · cases h

theorem addFilter_of_value {env : Env} {r : RuleData} {l o rhs : Bytes} {opc f v : Nat} {s a : Option Bytes}
    (ho : lookupB operatorsTable o = some opc) (hf : lookupB fieldsTable l = some f)
    (hex : (r.flags == excludeFilter && !(excludeOkFields.contains f)) = false)
    (hv : filterValue env r f opc rhs = some (v, s, a)) :
    addFilter env r l o rhs =
      some { r with trips := r.trips ++ [(f, v, opc)], strings := r.strings ++ s.toList, arch := a.getD r.arch } := by
  unfold addFilter
  simp only [ho, hf, hex, Bool.false_eq_true, if_false, hv, Option.map_some]
  cases s <;> cases a <;> simp

theorem lookupComparison_mem {lf rf c : Nat} (h : lookupComparison lf rf = some c) :
    ∃ e ∈ comparisonsTable, e.2.2 = c := by
  obtain ⟨e, hf, rfl⟩ := Option.map_eq_some_iff.mp h
  exact ⟨e, List.mem_of_find?_eq_some hf, rfl⟩

theorem addInterField_some {r r' : RuleData} {l o rhs : Bytes} (h : addInterField r l o rhs = some r') :
    ∃ opc c, lookupB operatorsTable o = some opc ∧ (opc = eqOp ∨ opc = neOp) ∧
      (∃ e ∈ comparisonsTable, e.2.2 = c) ∧
      r' = { r with trips := r.trips ++ [(fieldCompare, c, opc)] } := by
  unfold addInterField at h
  split at h
  · cases h
  · rename_i opc hop
    obtain ⟨hopc, h⟩ := Option.ite_none_left_eq_some.mp h
    split at h
    · obtain ⟨-, h⟩ := Option.ite_none_left_eq_some.mp h
      split at h
      · cases h
      · rename_i c hc
        cases h
        exact ⟨opc, c, hop, Decidable.or_iff_not_imp_left.mpr (by simpa using hopc), lookupComparison_mem hc, rfl⟩
    · cases h

theorem syscallBits_eq : syscallBitmaskSize * 32 = 2048 := by decide

theorem addSyscall_some {r r' : RuleData} {sc : Bytes} (h : addSyscall r sc = some r') :
    r' = { r with allSyscalls := true, explicitAll := true } ∨
    ∃ n, n < 2048 ∧ r' = { r with allSyscalls := r.explicitAll, syscalls := r.syscalls ++ [n] } := by
  unfold addSyscall at h
  split at h
  · cases h; exact Or.inl rfl
  · simp only at h
    split at h
    · cases h
    · rename_i n _
      obtain ⟨hr, h⟩ := Option.ite_none_left_eq_some.mp h
      cases h
      exact Or.inr ⟨n.toNat, by rw [syscallBits_eq] at hr; omega, rfl⟩

/-- the lists and the actions a rule can name, code and name. The model has four cascades over them (`setList`, `setAction`
of Build, `getList`, `getAction` of the printer): each is this table read one way or the other. -/
def listNames : List (Nat × Bytes) :=
  [(exitFilter, ofString "exit"), (taskFilter, ofString "task"),
   (userFilter, ofString "user"), (excludeFilter, ofString "exclude")]

def actionNames : List (Nat × Bytes) :=
  [(alwaysAction, ofString "always"), (neverAction, ofString "never")]

-- each test of a cascade yields the table entry in its own position
theorem setList_some {l : Bytes} {fl : Nat} (h : setList l = some fl) : (fl, l) ∈ listNames :=
  ite_beq_some_imp h (.head _) fun h => ite_beq_some_imp h (.tail _ (.head _)) fun h =>
    ite_beq_some_imp h (.tail _ (.tail _ (.head _))) fun h => ite_beq_some_imp h (.tail _ (.tail _ (.tail _ (.head _)))) nofun

theorem setAction_some {a : Bytes} {ac : Nat} (h : setAction a = some ac) : (ac, a) ∈ actionNames :=
  ite_beq_some_imp h (.head _) fun h => ite_beq_some_imp h (.tail _ (.head _)) nofun

theorem getList_names {fl : Nat} {l : Bytes} (h : getList fl = some l) : (fl, l) ∈ listNames :=
  ite_beq_some_imp h (.head _) fun h => ite_beq_some_imp h (.tail _ (.head _)) fun h =>
    ite_beq_some_imp h (.tail _ (.tail _ (.head _))) fun h => ite_beq_some_imp h (.tail _ (.tail _ (.tail _ (.head _)))) nofun

theorem getAction_names {ac : Nat} {a : Bytes} (h : getAction ac = some a) : (ac, a) ∈ actionNames :=
  ite_beq_some_imp h (.head _) fun h => ite_beq_some_imp h (.tail _ (.head _)) nofun

theorem listNames_spec : ∀ p ∈ listNames, setList p.2 = some p.1 ∧ getList p.1 = some p.2 := by decide +kernel

theorem actionNames_spec : ∀ p ∈ actionNames, setAction p.2 = some p.1 ∧ getAction p.1 = some p.2 := by decide +kernel

theorem setList_getList {fl : Nat} {l : Bytes} (h : getList fl = some l) : setList l = some fl :=
  (listNames_spec _ (getList_names h)).1

theorem setAction_getAction {ac : Nat} {a : Bytes} (h : getAction ac = some a) : setAction a = some ac :=
  (actionNames_spec _ (getAction_names h)).1

theorem ruleDataOf_induct {env : Env} (P : RuleData → Prop)
    (h0 : ∀ p ∈ listNames, ∀ q ∈ actionNames, P { flags := p.1, action := q.1, allSyscalls := true })
    (hF : ∀ r l o rhs opc f v s a, P r → lookupB operatorsTable o = some opc →
      lookupB fieldsTable l = some f →
      (r.flags == excludeFilter && !(excludeOkFields.contains f)) = false →
      filterValue env r f opc rhs = some (v, s, a) →
      P { r with trips := r.trips ++ [(f, v, opc)], strings := r.strings ++ s.toList, arch := a.getD r.arch })
    (hI : ∀ r o opc c, P r → lookupB operatorsTable o = some opc → (opc = eqOp ∨ opc = neOp) →
      (∃ e ∈ comparisonsTable, e.2.2 = c) →
      P { r with trips := r.trips ++ [(fieldCompare, c, opc)] })
    (hA : ∀ r, P r → P { r with allSyscalls := true, explicitAll := true })
    (hS : ∀ r n, P r → n < 2048 → P { r with allSyscalls := r.explicitAll, syscalls := r.syscalls ++ [n] })
    {rule : Rule} {r : RuleData} (h : ruleDataOf env rule = some r) : P r := by
  have hF' : ∀ r l o v r', P r → addFilter env r l o v = some r' → P r' := by
    intro r l o v r' hp hf
    obtain ⟨opc, f, v, s, a, h1, h2, h3, h4, rfl⟩ := addFilter_some hf
    exact hF r l o _ opc f v s a hp h1 h2 h3 h4
  have hK : ∀ r r' keys, P r → addKeys env r keys = some r' → P r' := by
    intro r r' keys hp hk
    unfold addKeys at hk
    split at hk
    · cases hk; exact hp
    · exact hF' _ _ _ _ _ hp hk
  cases rule with
  | deleteAll ks => cases h
  | watch path perms keys =>
    -- (`simp only [ruleDataOf, addFileWatch]` is slow here: it works on the byte literals)
    change addFileWatch env path perms keys = some r at h
    unfold addFileWatch at h
    obtain ⟨-, h⟩ := Option.ite_none_left_eq_some.mp h
    obtain ⟨r1, h1, h⟩ := Option.bind_eq_some_iff.mp h
    obtain ⟨r2, h2, h⟩ := Option.bind_eq_some_iff.mp h
    exact hK _ _ _ (hF' _ _ _ _ _ (hF' _ _ _ _ _ (h0 _ List.mem_cons_self _ List.mem_cons_self) h1) h2) h
  | syscall t list action filters syscalls keys =>
    simp only [ruleDataOf] at h
    split at h
    · rename_i fl ac hfl hac
      obtain ⟨r2, hr2, h⟩ := Option.bind_eq_some_iff.mp h
      refine hK _ _ _ (foldl_option_induct P _ (fun _ => rfl) ?_ syscalls ?_ hr2) h
      · intro b sc b' hp hs
        rcases addSyscall_some hs with rfl | ⟨n, hn, rfl⟩
        · exact hA b hp
        · exact hS b n hp hn
      · intro b hb
        refine foldl_option_induct P _ (fun _ => rfl) ?_ filters ?_ hb
        · intro b f b' hp hs
          split at hs
          · exact hF' _ _ _ _ _ hp hs
          · split at hs
            · obtain ⟨opc, c, h1, h2, h3, rfl⟩ := addInterField_some hs
              exact hI b _ opc c hp h1 h2 h3
            · cases hs; exact hp
        · intro b hb; cases hb; exact h0 _ (setList_some hfl) _ (setAction_some hac)
    · cases h

theorem syscalls_named {env : Env} {rule : Rule} {r : RuleData} (h : ruleDataOf env rule = some r) (hall : r.allSyscalls = false) :
    r.explicitAll = false ∧ r.syscalls ≠ [] := by
  refine ruleDataOf_induct (env := env) (fun r => r.allSyscalls = false → r.explicitAll = false ∧ r.syscalls ≠ []) ?_ ?_ ?_ ?_ ?_ h hall
  · intro p _ q _ hh; cases hh
  · intro r l o rhs opc f v s a hp _ _ _ _; exact hp
  · intro r o opc c hp _ _ _; exact hp
  · intro r hp hh; cases hh
  · intro r n hp _ hh; exact ⟨hh, by simp⟩

/-- why a numeric triple (an arch triple included) is in a rule: Build computed its value word for a filter on that field under the rule's list, and
the exclude-list restriction let it through. (`filterValue` reads the rule only through its list, `filterValue_flags`, so
`{ flags := fl }` stands for whatever rule Build had in hand.) -/
def NumOk (env : Env) (fl : Nat) (t : Nat × Nat × Nat) : Prop :=
  (∃ rhs0 a, filterValue env { flags := fl } t.1 t.2.2 rhs0 = some (t.2.1, none, a)) ∧
  (fl == excludeFilter && !(excludeOkFields.contains t.1)) = false

/-- why a string-valued triple is in a rule: Build accepted that very string for the field under the rule's list, and the
exclude-list restriction let it through. -/
def StrOk (env : Env) (fl : Nat) (t : Nat × Nat × Nat) (s : Bytes) : Prop :=
  filterValue env { flags := fl } t.1 t.2.2 s = some (s.length, some s, none) ∧
  (fl == excludeFilter && !(excludeOkFields.contains t.1)) = false

/-- the triples of a rule under list `fl` with their strings, each with the reason it is there. -/
inductive Built (env : Env) (fl : Nat) : List (Nat × Nat × Nat) → List Bytes → Prop
  | nil : Built env fl [] []
  | str {t : Nat × Nat × Nat} {s : Bytes} {ts : List (Nat × Nat × Nat)} {ss : List Bytes} :
      stringFields.contains t.1 = true → t.2.1 = s.length → StrOk env fl t s → Built env fl ts ss →
      Built env fl (t :: ts) (s :: ss)
  | num {t : Nat × Nat × Nat} {ts : List (Nat × Nat × Nat)} {ss : List Bytes} :
      stringFields.contains t.1 = false → (t.1 == fieldCompare) = false → NumOk env fl t →
      Built env fl ts ss → Built env fl (t :: ts) ss
  | cmp {t : Nat × Nat × Nat} {ts : List (Nat × Nat × Nat)} {ss : List Bytes} :
      t.1 = fieldCompare → (t.2.2 = eqOp ∨ t.2.2 = neOp) →
      (∃ e ∈ comparisonsTable, e.2.2 = t.2.1) → Built env fl ts ss → Built env fl (t :: ts) ss

/-- Build appends at the end, the relation is read from the front. -/
theorem Built.append {env : Env} {fl : Nat} {ts ts' : List (Nat × Nat × Nat)} {ss ss' : List Bytes}
    (h : Built env fl ts ss) (h' : Built env fl ts' ss') : Built env fl (ts ++ ts') (ss ++ ss') := by
  induction h with
  | nil => exact h'
  | str h1 h2 h3 _ ih => exact .str h1 h2 h3 ih
  | num h1 h2 h3 _ ih => exact .num h1 h2 h3 ih
  | cmp h1 h2 h3 _ ih => exact .cmp h1 h2 h3 ih

theorem fieldCompare_not_string : stringFields.contains fieldCompare = false := by decide +kernel

theorem fieldCompare_ne_arch : (fieldCompare == archField) = false := by decide

theorem field_ne_fieldCompare {l : Bytes} {f : Nat} (h : lookupB fieldsTable l = some f) :
    (f == fieldCompare) = false := by
  have cert : ∀ p ∈ fieldsTable, (p.2 == fieldCompare) = false := by decide +kernel
  obtain ⟨p, hp, rfl⟩ := lookupB_mem h
  exact cert p hp

theorem Built.of_str {env : Env} {fl : Nat} {t : Nat × Nat × Nat} {ts : List (Nat × Nat × Nat)} {s : Bytes} {ss : List Bytes}
    (h : Built env fl (t :: ts) (s :: ss)) (hs : stringFields.contains t.1 = true) :
    t.2.1 = s.length ∧ StrOk env fl t s ∧ Built env fl ts ss := by
  cases h with
  | str _ h2 h3 h4 => exact ⟨h2, h3, h4⟩
  | num h1 => rw [hs] at h1; cases h1
  | cmp h1 => rw [h1, fieldCompare_not_string] at hs; cases hs

theorem Built.of_num {env : Env} {fl : Nat} {t : Nat × Nat × Nat} {ts : List (Nat × Nat × Nat)} {ss : List Bytes}
    (h : Built env fl (t :: ts) ss) (hs : stringFields.contains t.1 = false) : Built env fl ts ss := by
  cases h with
  | str h1 => rw [hs] at h1; cases h1
  | num _ _ _ h4 => exact h4
  | cmp _ _ _ h4 => exact h4

theorem built_ruleDataOf {env : Env} {rule : Rule} {r : RuleData} (h : ruleDataOf env rule = some r) :
    Built env r.flags r.trips r.strings := by
  refine ruleDataOf_induct (env := env) (fun r => Built env r.flags r.trips r.strings) ?_ ?_ ?_ ?_ ?_ h
  · intro p _ q _; exact .nil
  · intro r l o rhs opc f v s a hp _ hl hex hv
    have hne := field_ne_fieldCompare hl
    rw [filterValue_flags env r { flags := r.flags } rfl] at hv
    rcases filterValue_some hv with ⟨hs, _, rfl, rfl, rfl⟩ | ⟨hs, _, rfl, _⟩ | ⟨hs, _, _, _, rfl, _⟩
    · exact hp.append (.str hs rfl ⟨hv, hex⟩ .nil)
    -- arch and the other numeric fields alike
    all_goals exact hp.append (.num hs hne ⟨⟨rhs, a, hv⟩, hex⟩ .nil)
  · intro r o opc c hp _ hop hc
    have := hp.append (.cmp (t := (fieldCompare, c, opc)) rfl hop hc .nil)
    rwa [List.append_nil] at this
  · intro r hp; exact hp
  · intro r n hp _; exact hp

end LA.Rule
