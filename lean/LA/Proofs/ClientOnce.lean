/-
Close happens once. Sequentially: the Close bookkeeping (closes, once, closeOk) is written by Close only (`CF`), so a
history closes the socket once iff Close ran. Concurrently: the invariant of the interleaved Close model (`CCInv`).
-/
import LA.Proofs.ClientCmd

namespace LA.Client
open LA.Netlink

/-- the Close bookkeeping is unchanged: the part of `Frame` that every command but Close keeps (a Send already breaks
`Frame`: seq, plans, sent; the setters write `pending` and `clearPID`) -/
structure CF (s s' : St) : Prop where
  closes  : s'.closes = s.closes
  once    : s'.once = s.once
  closeOk : s'.closeOk = s.closeOk

theorem CF.refl (s : St) : CF s s := ⟨rfl, rfl, rfl⟩
theorem CF.trans {a b c : St} (h1 : CF a b) (h2 : CF b c) : CF a c :=
  ⟨h2.closes.trans h1.closes, h2.once.trans h1.once, h2.closeOk.trans h1.closeOk⟩
theorem Frame.cf {s s' : St} (h : Frame s s') : CF s s' := ⟨h.closes, h.once, h.closeOk⟩

theorem send_cf (s : St) (t f : Nat) (d : Bytes) : CF s (send s t f d).1 := ⟨rfl, rfl, rfl⟩

theorem sendThen_cf {α : Type} (fail : Err → α) (s : St) (t f : Nat) (d : Bytes) (k : Nat → St → St × α)
    (hk : ∀ q s1, CF s1 (k q s1).1) : CF s (sendThen fail (send s t f d) k).1 :=
  sendThen_ind _ _ _ (fun x => CF s x.1) (send_cf ..) ((send_cf ..).trans (hk ..))

theorem awaitAck_cf (q : Nat) (s : St) : CF s (awaitAck q s).1 := (awaitAck_frame q s).cf

theorem addRule_cf (s : St) (r : Bytes) : CF s (addRule s r).1 := by
  rw [addRule_eq]; exact sendThen_cf _ _ _ _ _ _ awaitAck_cf

theorem deleteRule_cf (s : St) (r : Bytes) : CF s (deleteRule s r).1 := by
  rw [deleteRule_eq]; exact sendThen_cf _ _ _ _ _ _ awaitAck_cf

theorem set_cf (s : St) (st : Status) (mode : Nat) : CF s (set s st mode).1 := by
  rw [set_eq]
  refine sendThen_cf _ _ _ _ _ _ fun q s1 => ?_
  split
  · exact ⟨rfl, rfl, rfl⟩
  · exact awaitAck_cf q s1

theorem getRulesE_cf (s : St) : CF s (getRulesE s).1 := by
  rw [getRulesE_eq]
  exact sendThen_cf _ _ _ _ _ _ fun q s1 => (ackThen_frame _ _ _ _ fun s2 => rulesLoop_frame ..).cf

theorem deleteLoop_cf (rs : List Ref) (s : St) : CF s (deleteLoop rs s).1 := by
  induction rs generalizing s with
  | nil => exact CF.refl s
  | cons r rs ih =>
    rw [deleteLoop]
    match deleteRule s (r.deref s.buf), deleteRule_cf s (r.deref s.buf) with
    | (s1, .ok _), hd => exact hd.trans (ih s1)
    | (s1, .fail _), hd => exact hd
    | (s1, .panic), hd => exact hd

theorem deleteRules_cf (s : St) : CF s (deleteRules s).1 := by
  rw [deleteRules]
  match getRulesE s, getRulesE_cf s with
  | (s1, .error _), h1 => exact h1
  | (s1, .ok rs), h1 =>
    have h2 := deleteLoop_cf rs s1
    simp only
    generalize deleteLoop rs s1 = x at h2 ⊢
    split <;> exact h1.trans h2

theorem waitLoop_cf (ps : List Nat) (s : St) : CF s (waitLoop ps s).1 := by
  induction ps generalizing s with
  | nil => exact CF.refl s
  | cons p ps ih =>
    obtain ⟨s1, r, hg, hf⟩ := getReply_result p s
    rw [waitLoop, hg]
    cases r with
    | error e => exact hf.cf
    | ok ack =>
      have h2 : CF s { s1 with pending := ps } := ⟨hf.closes, hf.once, hf.closeOk⟩
      simp only
      split
      · exact h2
      · exact h2.trans (ih _)

theorem step_cf (s : St) (op : Op) (h : op ≠ .close) : CF s (step s op).1 := by
  cases op with
  | getStatus => exact (send_cf s AuditGet (NLM_F_REQUEST + NLM_F_ACK) []).trans (getStatus_frame s).cf
  | getStatusAsync a =>
    simp only [step, getStatusAsync, send]
    cases (s.plans.headD {}).sendOk <;> exact ⟨rfl, rfl, rfl⟩
  | getRules =>
    have h := getRulesE_cf s
    simp only [step, getRules]
    generalize getRulesE s = x at h ⊢
    split <;> exact h
  | deleteRules => exact deleteRules_cf s
  | deleteRule r => exact deleteRule_cf s r
  | addRule r => exact addRule_cf s r
  | setPID p wm =>
    have h1 : CF s { s with clearPID := true } := ⟨rfl, rfl, rfl⟩
    exact h1.trans (set_cf _ _ _)
  | setRateLimit _ _ | setBacklogLimit _ _ | setEnabled _ _ | setImmutable _ | setFailure _ _ | setBacklogWaitTime _ _ =>
    exact set_cf _ _ _
  | waitAcks => exact waitLoop_cf _ _
  | close => exact absurd rfl h
  | receive =>
    have h := (receive_consumed s).1.frame.cf
    simp only [step, receiveMsg]
    generalize receive s = x at h ⊢
    split <;> exact h
  | plans _ | enqueue _ => exact ⟨rfl, rfl, rfl⟩

/-- the optional PID clear that Close performs inside the Once -/
def closeBody (s : St) : St × Out :=
  if s.clearPID then set { s with once := true } { mask := AuditStatusPID, pid := 0 } NoWait
  else ({ s with once := true }, .ok .none)

theorem close_fst (s : St) (h : s.once = false) :
    (close s).1 = { (closeBody s).1 with closes := (closeBody s).1.closes + 1 } := by
  unfold close closeBody
  simp only [h, Bool.false_eq_true, if_false]
  split <;> rfl

theorem close_facts (s : St) :
    (s.once = true → close s = (s, .ok .none)) ∧
    (s.once = false → (close s).1.once = true ∧ (close s).1.closes = s.closes + 1) := by
  refine ⟨fun h => by simp [close, h], fun h => ?_⟩
  rw [close_fst s h, closeBody]
  split
  · exact ⟨(set_cf ..).once, congrArg (· + 1) (set_cf ..).closes⟩
  · exact ⟨rfl, rfl⟩

/-- the Close bookkeeping of any history: the socket has been closed once iff Close ran, never twice -/
def CloseInv (s : St) : Prop := s.closes = if s.once then 1 else 0

theorem step_close (s : St) (op : Op) :
    (step s op).1.once = (s.once || decide (op = .close)) ∧
    (step s op).1.closes = if op = .close ∧ s.once = false then s.closes + 1 else s.closes := by
  by_cases hop : op = .close
  · subst hop
    cases ho : s.once with
    | true => simp [step, (close_facts s).1 ho, ho]
    | false => obtain ⟨h1, h2⟩ := (close_facts s).2 ho; simp [step, h1, h2]
  · have := step_cf s op hop
    simp [this.once, this.closes, hop]

theorem run_close (ops : List Op) (s : St) (h : CloseInv s) :
    CloseInv (run s ops).1 ∧ (s.once = true ∨ Op.close ∈ ops → (run s ops).1.once = true) := by
  induction ops generalizing s with
  | nil => exact ⟨h, fun hh => by simpa [run] using hh⟩
  | cons op ops ih =>
    obtain ⟨h1, h2⟩ := step_close s op
    have hi : CloseInv (step s op).1 := by
      unfold CloseInv at *
      rw [h1, h2, h]
      by_cases hop : op = .close <;> cases s.once <;> simp [hop]
    refine ⟨(ih _ hi).1, fun hh => (ih _ hi).2 ?_⟩
    rw [h1]
    rcases hh with hh | hh
    · simp [hh]
    · rcases List.mem_cons.mp hh with hh | hh
      · simp [← hh]
      · exact Or.inr hh

/-- everything the Once body does, in order -/
def fullLog (clearPID : Bool) : List CEv := if clearPID then [.clearPID, .sockClose] else [.sockClose]

/-- what the Once body has done when it comes to Netlink.Close -/
def midLog (clearPID : Bool) : List CEv := if clearPID then [.clearPID] else []

/-- what the call that won the Once has done so far, by the phase it is in -/
def Winner (c : CC) : CPhase → Prop
  | .body => c.log = [] ∧ c.done = false
  | .sock e => e = (c.clearPID && !c.sendOk) ∧ c.log = midLog c.clearPID ∧ c.done = false
  | .ret r => r = ((c.clearPID && !c.sendOk) || !c.closeOk) ∧ c.log = fullLog c.clearPID ∧ c.done = true
  | _ => False

/-- the phases of a call that lost: it returns only once the body is done, and without an error -/
def Loser (c : CC) : CPhase → Prop
  | .idle | .waiting => True
  | .ret r => r = false ∧ c.done = true
  | _ => False

/-- what sync.Once gives: until it is taken nothing has happened; from then on exactly one call is the `Winner` and
every other call is a `Loser`. -/
structure CCInv (c : CC) : Prop where
  fresh : c.once = false → c.log = [] ∧ c.done = false ∧ ∀ i, c.phase i = .idle
  taken : c.once = true → ∃ w, Winner c (c.phase w) ∧ ∀ i, i ≠ w → Loser c (c.phase i)

theorem ccInv_init (a b d : Bool) : CCInv (CC.init a b d) :=
  ⟨fun _ => ⟨rfl, rfl, fun _ => rfl⟩, fun h => by simp [CC.init] at h⟩

@[simp] theorem setPhase_phase (c : CC) (i : Nat) (p : CPhase) (j : Nat) :
    (c.setPhase i p).phase j = if j = i then p else c.phase j := rfl

theorem Winner.log {c : CC} {p : CPhase} (h : Winner c p) :
    (c.log = [] ∨ c.log = midLog c.clearPID ∨ c.log = fullLog c.clearPID) ∧
    (c.done = true → c.log = fullLog c.clearPID) := by
  cases p with
  | body => exact ⟨.inl h.1, fun hd => absurd (h.2.symm.trans hd) (by decide)⟩
  | sock e => exact ⟨.inr (.inl h.2.1), fun hd => absurd (h.2.2.symm.trans hd) (by decide)⟩
  | ret r => exact ⟨.inr (.inr h.2.1), fun _ => h.2.1⟩
  | _ => exact h.elim

theorem CCInv.once_of_phase {c : CC} (h : CCInv c) {i : Nat} (hp : c.phase i ≠ .idle) : c.once = true := by
  cases hc : c.once with
  | true => rfl
  | false => exact absurd ((h.fresh hc).2.2 i) hp

theorem Loser.mono {c c' : CC} {p : CPhase} (h : Loser c p) (hd : c.done = true → c'.done = true) : Loser c' p := by
  cases p with
  | ret r => exact ⟨h.1, hd h.2⟩
  | _ => exact h

theorem eq_winner {c : CC} {w i : Nat} (hlos : ∀ j, j ≠ w → Loser c (c.phase j)) (hp : ¬ Loser c (c.phase i)) : i = w :=
  Decidable.byContradiction fun hne => hp (hlos i hne)

theorem ccInv_loser {c : CC} {w i : Nat} {p : CPhase} (ho : c.once = true) (hw : Winner c (c.phase w))
    (hlos : ∀ j, j ≠ w → Loser c (c.phase j)) (hiw : i ≠ w) (hp : Loser c p) : CCInv (c.setPhase i p) := by
  refine ⟨fun hh => by simp [CC.setPhase, ho] at hh, fun _ => ⟨w, ?_, fun j hj => ?_⟩⟩
  · rw [setPhase_phase, if_neg (Ne.symm hiw)]; exact hw
  · rw [setPhase_phase]
    split
    · exact hp
    · exact hlos j hj

theorem ccInv_winner {c c' : CC} {w : Nat} {p : CPhase} (ho : c'.once = true) (hw : Winner c' p)
    (hph : ∀ j, c'.phase j = if j = w then p else c.phase j) (hlos : ∀ j, j ≠ w → Loser c (c.phase j))
    (hd : c.done = true → c'.done = true) : CCInv c' := by
  refine ⟨fun hh => absurd (ho.symm.trans hh) (by decide), fun _ => ⟨w, by rw [hph, if_pos rfl]; exact hw, fun j hj => ?_⟩⟩
  rw [hph, if_neg hj]
  exact (hlos j hj).mono hd

theorem ccInv_step {c : CC} (h : CCInv c) (i : Nat) : CCInv (ccStep c i) := by
  -- a step is a loser's, which changes its own phase only (`ccInv_loser`), or the winner's (`ccInv_winner`); a call in
  -- `body` or `sock` can only be the winner (`eq_winner`)
  unfold ccStep
  cases hp : c.phase i with
  | idle =>
    simp only
    cases ho : c.once with
    | false =>
      obtain ⟨hl, hd, hall⟩ := h.fresh ho
      exact ccInv_winner (w := i) (p := .body) rfl ⟨hl, hd⟩ (fun _ => rfl) (fun j _ => by rw [hall j]; trivial) id
    | true =>
      obtain ⟨w, hw, hlos⟩ := h.taken ho
      exact ccInv_loser ho hw hlos (fun e => by rw [← e, hp] at hw; exact hw) trivial
  | waiting =>
    simp only
    have ho := h.once_of_phase (i := i) (by simp [hp])
    obtain ⟨w, hw, hlos⟩ := h.taken ho
    cases hd : c.done with
    | false => exact h
    | true => exact ccInv_loser ho hw hlos (fun e => by rw [← e, hp] at hw; exact hw) ⟨rfl, hd⟩
  | ret r => exact h
  | body =>
    simp only
    have ho := h.once_of_phase (i := i) (by simp [hp])
    obtain ⟨w, hw, hlos⟩ := h.taken ho
    obtain rfl : i = w := eq_winner hlos (by rw [hp]; exact id)
    rw [hp] at hw
    obtain ⟨hlog, hdone⟩ : c.log = [] ∧ c.done = false := hw
    cases hcp : c.clearPID with
    | true =>
      rw [if_pos rfl]
      refine ccInv_winner (w := i) (p := .sock (!c.sendOk)) ho ⟨?_, ?_, hdone⟩ (fun _ => rfl) hlos id
      · show (!c.sendOk) = (c.clearPID && !c.sendOk)
        rw [hcp]; rfl
      · show c.log ++ [.clearPID] = midLog c.clearPID
        rw [hlog, hcp]; rfl
    | false =>
      rw [if_neg (by decide)]
      refine ccInv_winner (w := i) (p := .sock false) ho ⟨?_, ?_, hdone⟩ (fun _ => rfl) hlos id
      · show false = (c.clearPID && !c.sendOk)
        rw [hcp]; rfl
      · show c.log = midLog c.clearPID
        rw [hlog, hcp]; rfl
  | sock e =>
    simp only
    have ho := h.once_of_phase (i := i) (by simp [hp])
    obtain ⟨w, hw, hlos⟩ := h.taken ho
    obtain rfl : i = w := eq_winner hlos (by rw [hp]; exact id)
    rw [hp] at hw
    obtain ⟨he, hlog, _⟩ : e = (c.clearPID && !c.sendOk) ∧ c.log = midLog c.clearPID ∧ c.done = false := hw
    refine ccInv_winner (w := i) (p := .ret (e || !c.closeOk)) ho ⟨by rw [he]; rfl, ?_, rfl⟩ (fun _ => rfl) hlos fun _ => rfl
    show c.log ++ [.sockClose] = fullLog c.clearPID
    rw [hlog, midLog, fullLog]
    cases c.clearPID <;> rfl

theorem ccInv_run (sched : List Nat) {c : CC} (h : CCInv c) : CCInv (ccRun c sched) := by
  induction sched generalizing c with
  | nil => exact h
  | cons i is ih => exact ih (ccInv_step h i)

theorem ccStep_params (c : CC) (i : Nat) :
    (ccStep c i).clearPID = c.clearPID ∧ (ccStep c i).sendOk = c.sendOk ∧ (ccStep c i).closeOk = c.closeOk := by
  unfold ccStep
  cases c.phase i with
  | idle | body | waiting => simp only; split <;> exact ⟨rfl, rfl, rfl⟩
  | sock _ | ret _ => exact ⟨rfl, rfl, rfl⟩

theorem ccRun_params (sched : List Nat) (c : CC) :
    (ccRun c sched).clearPID = c.clearPID ∧ (ccRun c sched).sendOk = c.sendOk ∧ (ccRun c sched).closeOk = c.closeOk := by
  induction sched generalizing c with
  | nil => exact ⟨rfl, rfl, rfl⟩
  | cons i is ih =>
    obtain ⟨h1, h2, h3⟩ := ih (ccStep c i)
    obtain ⟨g1, g2, g3⟩ := ccStep_params c i
    exact ⟨h1.trans g1, h2.trans g2, h3.trans g3⟩

end LA.Client
