/-
The base-256 digits of a word add up to the word: the arithmetic behind reading back what a little-endian writer wrote, for
the netlink model (bytes as `UInt8`) and the rule encoder (bytes as `Nat`) alike.
-/
namespace LA

theorem split16 (n : Nat) : n % 256 + 256 * (n / 256 % 256) = n % 65536 :=
  (Nat.mod_mul (a := 256) (b := 256)).symm

/-- two base-65536 digits, each split by `split16` -/
theorem split32 (n : Nat) :
    n % 256 + 256 * (n / 256 % 256) + 65536 * (n / 65536 % 256) + 16777216 * (n / 16777216 % 256) = n % 4294967296 := by
  have h : n % 4294967296 = n % 65536 + 65536 * (n / 65536 % 65536) := Nat.mod_mul (a := 65536) (b := 65536)
  have d : n / 65536 / 256 = n / 16777216 := Nat.div_div_eq_div_mul n 65536 256
  rw [h, ← split16 n, ← split16 (n / 65536), d, Nat.mul_add, ← Nat.mul_assoc, Nat.add_assoc]

end LA
