/-
Every 32-bit quantity that the rule encoder accumulates fits a word, given that the ids of the user and group databases
do (`EnvOk`, the one hypothesis on the environment): one bound per value parser, collected along the
cascade of `numValue` (`numValue_lt`), one per table, and `WordsInv` as the invariant of everything Build accumulates.
-/
import LA.Proofs.Num
import LA.Proofs.Tables
import LA.Proofs.RuleBuild

namespace LA.Rule
open LA

/-- the one hypothesis about the environment: the ids the user and group databases return fit 32 bits (os/user hands
them out as decimal strings, which the code reads with ParseUint(…, 10, 32)). -/
structure EnvOk (env : Env) : Prop where
  users : ∀ p ∈ env.users, p.2 < 4294967296
  groups : ∀ p ∈ env.groups, p.2 < 4294967296

theorem parseUintGo_toNat_lt {s : Bytes} {base : Nat} {v : Int} (h : parseUintGo s base 32 = .ok v) : v.toNat < 4294967296 := by
  have := parseUintGo_bound h
  have e : ((2 ^ 32 - 1 : Nat) : Int) = 4294967295 := by decide
  omega

theorem getUID_lt {env : Env} (he : EnvOk env) {s : Bytes} {v : Nat} (h : getUID env s = some v) : v < 4294967296 := by
  unfold getUID at h
  split at h
  · cases h; decide
  · split at h
    · cases h; exact parseUintGo_toNat_lt ‹_›
    · cases h
    · obtain ⟨p, hp, rfl⟩ := lookupB_mem h
      exact he.users p hp

theorem getGID_lt {env : Env} (he : EnvOk env) {s : Bytes} {v : Nat} (h : getGID env s = some v) : v < 4294967296 := by
  unfold getGID at h
  split at h
  · cases h; exact parseUintGo_toNat_lt ‹_›
  · cases h
  · obtain ⟨p, hp, rfl⟩ := lookupB_mem h
    exact he.groups p hp

theorem getAuditMsgType_lt {s : Bytes} {v : Nat} (h : getAuditMsgType s = some v) : v < 4294967296 := by
  unfold getAuditMsgType at h
  split at h
  · cases h; exact parseUintGo_toNat_lt ‹_›
  · cases h
  · exact Nat.lt_trans (MsgType.getType_lt h) (by decide)

theorem parseNum_lt {s : Bytes} {v : Nat} (h : parseNum s = some v) : v < 4294967296 := by
  unfold parseNum at h
  split at h
  · split at h
    · cases h; exact toU32_lt _
    · cases h
  · split at h
    · cases h; exact parseUintGo_toNat_lt ‹_›
    · cases h

/-- saddr_fam: 2 and 10 are AF_INET and AF_INET6. -/
theorem saddrFam_some {s : Bytes} {v : Nat}
    (h : ((parseNum s).bind fun n => if n == 2 || n == 10 then some n else none) = some v) :
    parseNum s = some v ∧ (v == 2 || v == 10) = true := by
  obtain ⟨n, hn, h⟩ := Option.bind_eq_some_iff.mp h
  obtain ⟨hc, h⟩ := Option.ite_none_right_eq_some.mp h
  cases h
  exact ⟨hn, hc⟩

theorem archCode_mem {real : Bytes} {c : Nat} (hc : Tables.archCode real = some c) :
    ∃ q ∈ LA.Gen.Arches.archNames, q.1 = c := by
  obtain ⟨q, hq, rfl⟩ := Option.map_eq_some_iff.mp hc
  exact ⟨q, List.mem_of_find?_eq_some hq, rfl⟩

theorem getArch_code {s : Bytes} {p : Bytes × Nat} (h : getArch s = some p) : Tables.archCode p.1 = some p.2 := by
  unfold getArch at h
  simp only at h
  split at h
  · cases h; assumption
  · cases h

theorem getArch_lt {s : Bytes} {p : Bytes × Nat} (h : getArch s = some p) : p.2 < 4294967296 := by
  have cert : ∀ q ∈ LA.Gen.Arches.archNames, q.1 < 4294967296 := by decide +kernel
  obtain ⟨q, hq, hc⟩ := archCode_mem (getArch_code h)
  exact hc ▸ cert q hq

theorem getPerm_lt16 {s : Bytes} {v : Nat} (h : getPerm s = some v) : v < 16 := by
  -- every letter ORs one of the four permission bits into a word below 16
  refine foldl_option_induct (· < 16) _ (fun _ => rfl) ?_ s (o := some 0) ?_ h
  · intro bits b y hb
    have hor : ∀ c, c < 16 → ∀ y, some (bits ||| c) = some y → y < 16 :=
      fun c hc _ h => Option.some.inj h ▸ Nat.or_lt_two_pow (n := 4) hb hc
    exact ite_some_imp (hor _ (by decide)) (ite_some_imp (hor _ (by decide)) (ite_some_imp (hor _ (by decide))
      (ite_some_imp (hor _ (by decide)) (by nofun)))) y
  · intro b hb; cases hb; decide

theorem getFiletype_mem {s : Bytes} {v : Nat} (h : getFiletype s = some v) : ∃ p ∈ filetypeNames, p.2 = v := by
  unfold getFiletype at h
  split at h
  · cases h; exact lookupB_mem ‹_›
  · split at h
    · obtain ⟨hany, h⟩ := Option.ite_none_right_eq_some.mp h
      cases h
      obtain ⟨p, hp1, hp2⟩ := List.any_eq_true.mp hany
      exact ⟨p, hp1, by have := eq_of_beq hp2; omega⟩
    · cases h

theorem getFiletype_lt {s : Bytes} {v : Nat} (h : getFiletype s = some v) : v < 4294967296 := by
  have cert : ∀ p ∈ filetypeNames, p.2 < 4294967296 := by decide +kernel
  obtain ⟨p, hp, rfl⟩ := getFiletype_mem h
  exact cert p hp

theorem numValue_lt {env : Env} (he : EnvOk env) {f : Nat} {rhs : Bytes} {v : Nat} (h : numValue env f rhs = some v) :
    v < 4294967296 := by
  have hexit : ∀ v, (getExitCode rhs).map toU32 = some v → v < 4294967296 := by
    intro v h
    obtain ⟨c, _, rfl⟩ := Option.map_eq_some_iff.mp h
    exact toU32_lt c
  -- the cascade of numValue, one parser per field class
  exact ite_some_imp (fun _ => getUID_lt he) (ite_some_imp (fun _ => getGID_lt he) (ite_some_imp hexit
    (ite_some_imp (fun _ => getAuditMsgType_lt) (ite_some_imp (fun _ h => Nat.lt_trans (getPerm_lt16 h) (by decide)) (ite_some_imp (fun _ => getFiletype_lt)
    (ite_some_imp (fun _ => parseNum_lt) (ite_some_imp (fun _ h => parseNum_lt (saddrFam_some h).1) (fun _ => parseNum_lt)))))))) v h

theorem filterValue_bound {env : Env} (he : EnvOk env) {r : RuleData} {f opc : Nat} {rhs : Bytes}
    {v : Nat} {s a : Option Bytes} (h : filterValue env r f opc rhs = some (v, s, a)) :
    v < 4294967296 ∧ ∀ str, s = some str → str.length ≤ 4096 := by
  rcases filterValue_some h with ⟨_, hg, rfl, rfl, _⟩ | ⟨_, _, rfl, p, hp, rfl, _⟩ | ⟨_, _, _, hv, rfl, _⟩
  · have := strGuard_le hg
    exact ⟨by omega, by intro str hs; cases hs; exact this⟩
  · exact ⟨getArch_lt hp, nofun⟩
  · exact ⟨numValue_lt he hv, nofun⟩

/-- every word of the rule fits 32 bits, as an invariant that each step of Build keeps: `WordsOk` of C06 asks for the
total length of the strings, which no single step controls; here it follows from their number and PATH_MAX. -/
structure WordsInv (r : RuleData) : Prop where
  flags : r.flags < 4294967296
  action : r.action < 4294967296
  trips : ∀ t ∈ r.trips, t.1 < 4294967296 ∧ t.2.1 < 4294967296 ∧ t.2.2 < 4294967296
  syscalls : ∀ w ∈ r.syscalls, w < 2048
  strCount : r.strings.length ≤ r.trips.length
  strLen : ∀ s ∈ r.strings, s.length ≤ 4096

theorem flatten_length_le {α : Type} {ss : List (List α)} {N : Nat} (h : ∀ s ∈ ss, s.length ≤ N) : ss.flatten.length ≤ ss.length * N := by
  induction ss with
  | nil => simp
  | cons s ss ih =>
    rw [List.flatten_cons, List.length_append, List.length_cons, Nat.succ_mul, Nat.add_comm]
    exact Nat.add_le_add (ih fun x hx => h x (List.mem_cons_of_mem _ hx)) (h s List.mem_cons_self)

theorem strings_total_le {r : RuleData} (hi : WordsInv r) : r.strings.flatten.length ≤ r.trips.length * 4096 :=
  Nat.le_trans (flatten_length_le hi.strLen) (Nat.mul_le_mul_right 4096 hi.strCount)

theorem lookupB_lt {l : List (Bytes × Nat)} {N : Nat} (cert : ∀ p ∈ l, p.2 < N) {k : Bytes} {v : Nat}
    (h : lookupB l k = some v) : v < N := by
  obtain ⟨p, hp, rfl⟩ := lookupB_mem h
  exact cert p hp

theorem field_code_lt {lhs : Bytes} {f : Nat} (h : lookupB LA.Gen.RuleTables.fieldsTable lhs = some f) : f < 4294967296 :=
  lookupB_lt (by decide +kernel) h

theorem op_code_lt {op : Bytes} {c : Nat} (h : lookupB LA.Gen.RuleTables.operatorsTable op = some c) : c < 4294967296 :=
  lookupB_lt (by decide +kernel) h

theorem comparison_code_lt {c : Nat} (h : ∃ e ∈ LA.Gen.RuleTables.comparisonsTable, e.2.2 = c) : c < 4294967296 := by
  have cert : ∀ e ∈ LA.Gen.RuleTables.comparisonsTable, e.2.2 < 4294967296 := by decide +kernel
  obtain ⟨e, he, rfl⟩ := h
  exact cert e he

theorem forall_mem_snoc {α : Type} {Q : α → Prop} {l : List α} {x : α} (hl : ∀ t ∈ l, Q t) (hx : Q x) : ∀ t ∈ l ++ [x], Q t :=
  List.forall_mem_append.mpr ⟨hl, List.forall_mem_singleton.mpr hx⟩

theorem WordsInv.snoc {r : RuleData} (hi : WordsInv r) {t : Nat × Nat × Nat} {s : Option Bytes} (a : Bytes)
    (ht : t.1 < 4294967296 ∧ t.2.1 < 4294967296 ∧ t.2.2 < 4294967296) (hs : ∀ str, s = some str → str.length ≤ 4096) :
    WordsInv { r with trips := r.trips ++ [t], strings := r.strings ++ s.toList, arch := a } := by
  refine { hi with trips := forall_mem_snoc hi.trips ht, strCount := ?_,
                   strLen := List.forall_mem_append.mpr ⟨hi.strLen, fun x hx => hs x (Option.mem_toList.mp hx)⟩ }
  -- one more triple, at most one more string
  have := hi.strCount
  have := Option.length_toList_le (o := s)
  simp only [List.length_append, List.length_cons, List.length_nil]
  omega

theorem wordsInv_ruleDataOf {env : Env} (he : EnvOk env) {rule : Rule} {r : RuleData} (h : ruleDataOf env rule = some r) :
    WordsInv r := by
  refine ruleDataOf_induct (env := env) WordsInv ?_ ?_ ?_ ?_ ?_ h
  · intro p hp q hq
    have h1 : ∀ p ∈ listNames, p.1 < 4294967296 := by decide
    have h2 : ∀ q ∈ actionNames, q.1 < 4294967296 := by decide
    exact ⟨h1 p hp, h2 q hq, by simp, by simp, by simp, by simp⟩
  · intro r l o rhs opc f v s a hi hop hf _ hv
    obtain ⟨hb1, hb2⟩ := filterValue_bound he hv
    exact hi.snoc _ ⟨field_code_lt hf, hb1, op_code_lt hop⟩ hb2
  · intro r o opc c hi hop _ hc
    simpa using hi.snoc (t := (LA.Gen.RuleTables.fieldCompare, c, opc)) (s := none) r.arch ⟨(by decide : LA.Gen.RuleTables.fieldCompare < 4294967296), comparison_code_lt hc, op_code_lt hop⟩ nofun
  · intro r hi; exact { hi with }
  · intro r n hi hn; exact { hi with syscalls := forall_mem_snoc hi.syscalls hn }

end LA.Rule
