/-
The encoder against the UAPI layout: toAuditRuleData + toWireFormat in one piece (`toWire_eq`); a mask word is a sum of
distinct powers of two, so its bits are the syscalls asked for (`testBit_bitSum`); the independent decoder of
`Spec/RuleLayout` reads a well-formed encoding back field by field, a cursor moving through the bytes (`decode_encode`).
-/
import LA.Model.Rule
import LA.Spec.RuleLayout
import LA.Proofs.Digits

namespace LA.Rule
open LA
open LA.Auparse (Res)

theorem le32_length (w : Nat) : (le32 w).length = 4 := rfl

theorem flatMap_le32_length (ws : List Nat) : (ws.flatMap le32).length = 4 * ws.length := by
  induction ws with
  | nil => rfl
  | cons w ws ih => rw [List.flatMap_cons, List.length_append, ih, le32_length, List.length_cons]; omega

theorem padTo_length (n : Nat) (l : List Nat) (h : l.length ≤ n) : (padTo n l).length = n := by
  rw [padTo, List.length_append, List.length_replicate]; omega

theorem maskOf_length (r : RuleData) : (maskOf r).length = 64 := by
  unfold maskOf
  split
  · rfl
  · rw [List.length_map, List.length_range]

theorem maskOf_all {r : RuleData} (h : r.allSyscalls = true) : maskOf r = List.replicate 63 0xFFFFFFFF ++ [0x0000FFFF] := by
  rw [maskOf, if_pos h]

/-- with all syscalls, fromAuditRuleData's test for "all" (the first 63 words full) succeeds on the mask. -/
theorem maskOf_all_full {r : RuleData} (h : r.allSyscalls = true) : ((maskOf r).take 63).all (· == 0xFFFFFFFF) = true := by
  rw [maskOf_all h]; decide

theorem maskOf_getElem? {r : RuleData} (hall : r.allSyscalls = false) {k : Nat} (hk : k < 64) :
    (maskOf r)[k]? = some (maskWord r.syscalls k) := by
  simp only [maskOf, hall, Bool.false_eq_true, if_false, List.getElem?_map, List.getElem?_range hk, Option.map_some]

theorem maxFields_eq : LA.Gen.RuleTables.maxFields = 64 := by decide

theorem toWire_eq (r : RuleData) :
    toWire r = if 64 < r.trips.length then Res.err "err" else
      Res.ok (le32 r.flags ++ le32 r.action ++ le32 r.fields.length ++ (maskOf r).flatMap le32 ++
        (padTo 64 r.fields).flatMap le32 ++ (padTo 64 r.values).flatMap le32 ++ (padTo 64 r.fieldFlags).flatMap le32 ++
        le32 (r.strings.flatten.length % 4294967296) ++ r.strings.flatten ++
        List.replicate ((4 - (1040 + r.strings.flatten.length) % 4) % 4) 0) := by
  have hf : r.fields.length = r.trips.length := List.length_map _
  have hv : r.values.length = r.trips.length := List.length_map _
  have hff : r.fieldFlags.length = r.trips.length := List.length_map _
  unfold toWire
  rw [maxFields_eq, hf]
  split
  · rfl
  · rename_i hc
    have hc : r.trips.length ≤ 64 := by omega
    simp only [storeAll, hf, hv, hff, hc, if_true, bind, Bind.bind, List.length_append, le32_length, flatMap_le32_length,
      maskOf_length, padTo_length _ _ (hf ▸ hc), padTo_length _ _ (hv ▸ hc), padTo_length _ _ (hff ▸ hc)]

theorem toWire_congr_mask (r1 r2 : RuleData) (h1 : r1.flags = r2.flags) (h2 : r1.action = r2.action) (h3 : r1.trips = r2.trips)
    (h4 : r1.strings = r2.strings) (h5 : maskOf r1 = maskOf r2) : toWire r1 = toWire r2 := by
  unfold toWire RuleData.fields RuleData.values RuleData.fieldFlags
  rw [h1, h2, h3, h4, h5]

theorem toWire_congr_all (r1 r2 : RuleData) (h1 : r1.flags = r2.flags) (h2 : r1.action = r2.action) (h3 : r1.trips = r2.trips)
    (h4 : r1.strings = r2.strings) (h5 : r1.allSyscalls = true) (h6 : r2.allSyscalls = true) :
    toWire r1 = toWire r2 :=
  toWire_congr_mask r1 r2 h1 h2 h3 h4 (by rw [maskOf_all h5, maskOf_all h6])

/-- the number whose bits below `n` are `p`: what the fold of `maskWord` computes (`foldl_range_bitSum`). -/
def bitSum (p : Nat → Bool) : Nat → Nat
  | 0 => 0
  | n + 1 => bitSum p n + (if p n then 2 ^ n else 0)

theorem bitSum_lt (p : Nat → Bool) (n : Nat) : bitSum p n < 2 ^ n := by
  induction n with
  | zero => simp [bitSum]
  | succ n ih =>
    simp only [bitSum]
    have : 2 ^ (n + 1) = 2 ^ n + 2 ^ n := by rw [Nat.pow_succ]; omega
    split <;> omega

theorem testBit_bitSum (p : Nat → Bool) (n k : Nat) : (bitSum p n).testBit k = (decide (k < n) && p k) := by
  induction n with
  | zero => simp [bitSum]
  | succ n ih =>
    -- bit n lies above the partial sum (`bitSum_lt`), so adding it is or-ing it in
    have hor : bitSum p n + 2 ^ n = 2 ^ n ||| bitSum p n := by
      rw [Nat.add_comm, ← Nat.mul_one (2 ^ n), Nat.two_pow_add_eq_or_of_lt (bitSum_lt p n)]
    have hb : (bitSum p (n + 1)).testBit k = ((p n && decide (n = k)) || (decide (k < n) && p k)) := by
      rw [bitSum, ← ih]
      cases p n
      · simp
      · simp [hor, Nat.testBit_or, Nat.testBit_two_pow]
    rw [hb]
    by_cases hk : n = k
    · subst hk; simp
    · simp [hk, show k < n + 1 ↔ k < n by omega]

theorem foldl_range_bitSum (p : Nat → Bool) (n : Nat) :
    (List.range n).foldl (fun acc bit => if p bit then acc + 2 ^ bit else acc) 0 = bitSum p n := by
  induction n with
  | zero => rfl
  | succ n ih =>
    rw [List.range_succ, List.foldl_append, ih]
    simp only [List.foldl_cons, List.foldl_nil, bitSum]
    split <;> simp

theorem maskWord_eq (syscalls : List Nat) (w : Nat) :
    maskWord syscalls w = bitSum (fun bit => syscalls.contains (w * 32 + bit)) 32 := by
  unfold maskWord
  exact foldl_range_bitSum _ 32

theorem padTo_lt (n : Nat) (l : List Nat) (h : ∀ w ∈ l, w < 4294967296) : ∀ w ∈ padTo n l, w < 4294967296 := by
  intro w hw
  simp only [padTo, List.mem_append, List.mem_replicate] at hw
  rcases hw with hw | ⟨_, rfl⟩
  · exact h w hw
  · omega

theorem maskOf_lt (r : RuleData) : ∀ w ∈ maskOf r, w < 4294967296 := by
  intro w hw
  unfold maskOf at hw
  split at hw
  · simp only [List.mem_append, List.mem_replicate, List.mem_cons, List.mem_nil_iff, or_false] at hw
    rcases hw with ⟨_, rfl⟩ | rfl <;> omega
  · obtain ⟨i, _, rfl⟩ := List.mem_map.mp hw
    rw [maskWord_eq]
    exact bitSum_lt _ 32

open LA.Spec.RuleLayout

theorem word_le {b : Bytes} {off w : Nat} (h : word b off = some w) : off + 4 ≤ b.length := by
  unfold word at h
  split at h
  · rename_i hd
    have := congrArg List.length hd
    simp only [List.length_drop, List.length_cons] at this
    omega
  · cases h

theorem word_of_le {b : Bytes} {off : Nat} (h : off + 4 ≤ b.length) : ∃ w, word b off = some w := by
  rw [word, List.drop_eq_getElem_cons (by omega), List.drop_eq_getElem_cons (by omega), List.drop_eq_getElem_cons (by omega),
    List.drop_eq_getElem_cons (by omega)]
  exact ⟨_, rfl⟩

theorem words_of_le {b : Bytes} {off n : Nat} (h : off + 4 * n ≤ b.length) : ∃ ws, words b off n = some ws := by
  induction n generalizing off with
  | zero => exact ⟨[], rfl⟩
  | succ n ih =>
    obtain ⟨w, hw⟩ := word_of_le (b := b) (off := off) (by omega)
    obtain ⟨ws, hws⟩ := ih (off := off + 4) (by omega)
    exact ⟨w :: ws, by simp only [words, hw, hws]⟩

theorem words_succ {b : Bytes} {off n : Nat} {l : List Nat} (h : words b off (n + 1) = some l) :
    ∃ w ws, word b off = some w ∧ words b (off + 4) n = some ws ∧ l = w :: ws := by
  simp only [words] at h
  split at h
  · cases h; exact ⟨_, _, ‹_›, ‹_›, rfl⟩
  · cases h

theorem words_length {b : Bytes} {off n : Nat} {l : List Nat} (h : words b off n = some l) : l.length = n := by
  induction n generalizing off l with
  | zero => cases h; rfl
  | succ n ih =>
    obtain ⟨w, ws, _, hr, rfl⟩ := words_succ h
    rw [List.length_cons, ih hr]

theorem words_split {b : Bytes} {off n m : Nat} {l : List Nat} (h : words b off (n + m) = some l) :
    words b off n = some (l.take n) ∧ words b (off + 4 * n) m = some (l.drop n) := by
  induction n generalizing off l with
  | zero => rw [Nat.zero_add] at h; exact ⟨rfl, h⟩
  | succ n ih =>
    rw [Nat.add_right_comm] at h
    obtain ⟨w, ws, hw, hr, rfl⟩ := words_succ h
    obtain ⟨h1, h2⟩ := ih hr
    refine ⟨by simp only [words, hw, h1, List.take_succ_cons], ?_⟩
    rw [List.drop_succ_cons, ← h2]
    congr 1
    omega

theorem word_of_words1 {b : Bytes} {off : Nat} {w : Nat} (h : words b off 1 = some [w]) : word b off = some w := by
  obtain ⟨_, _, hw, _, hl⟩ := words_succ h
  cases hl
  exact hw

theorem word_step {b rest : Bytes} {off w : Nat} (h : b.drop off = le32 w ++ rest) (hw : w < 4294967296) :
    word b off = some w ∧ b.drop (off + 4) = rest := by
  refine ⟨?_, by rw [← List.drop_drop, h]; rfl⟩
  simp only [word, h, le32, List.cons_append, List.nil_append]
  rw [split32, Nat.mod_eq_of_lt hw]

theorem words_step {b rest : Bytes} {off : Nat} {ws : List Nat} (h : b.drop off = ws.flatMap le32 ++ rest)
    (hws : ∀ w ∈ ws, w < 4294967296) :
    words b off ws.length = some ws ∧ b.drop (off + 4 * ws.length) = rest := by
  induction ws generalizing off with
  | nil => exact ⟨rfl, by simpa using h⟩
  | cons w ws ih =>
    rw [List.flatMap_cons, List.append_assoc] at h
    obtain ⟨h1, h2⟩ := word_step h (hws w List.mem_cons_self)
    obtain ⟨h3, h4⟩ := ih h2 (fun x hx => hws x (List.mem_cons_of_mem _ hx))
    refine ⟨by simp only [List.length_cons, words, h1, h3], ?_⟩
    rw [← h4, List.length_cons]
    congr 1
    omega

theorem decode_encode (f a c : Nat) (m fs vs ffs : List Nat) (buf pad : Bytes)
    (hf : f < 4294967296) (ha : a < 4294967296) (hc : c < 4294967296) (hbl : buf.length < 4294967296)
    (lm : m.length = 64) (lfs : fs.length = 64) (lvs : vs.length = 64) (lffs : ffs.length = 64)
    (bm : ∀ w ∈ m, w < 4294967296) (bfs : ∀ w ∈ fs, w < 4294967296) (bvs : ∀ w ∈ vs, w < 4294967296)
    (bffs : ∀ w ∈ ffs, w < 4294967296) :
    decode (le32 f ++ le32 a ++ le32 c ++ m.flatMap le32 ++ fs.flatMap le32 ++ vs.flatMap le32 ++ ffs.flatMap le32 ++
        le32 buf.length ++ buf ++ pad) =
      some { flags := f, action := a, fieldCount := c, mask := m, fields := fs, values := vs, fieldFlags := ffs,
             bufLen := buf.length, buf := buf, padding := pad } := by
  generalize hb : le32 f ++ le32 a ++ le32 c ++ m.flatMap le32 ++ fs.flatMap le32 ++ vs.flatMap le32 ++ ffs.flatMap le32 ++
        le32 buf.length ++ buf ++ pad = b
  have d0 : b.drop 0 = le32 f ++ (le32 a ++ (le32 c ++ (m.flatMap le32 ++ (fs.flatMap le32 ++ (vs.flatMap le32 ++
      (ffs.flatMap le32 ++ (le32 buf.length ++ (buf ++ pad)))))))) := by
    rw [← hb]; simp only [List.drop_zero, List.append_assoc]
  -- a cursor through the bytes: each read hands on what is left
  obtain ⟨r0, d⟩ := word_step d0 hf
  obtain ⟨r4, d⟩ := word_step d ha
  obtain ⟨r8, d⟩ := word_step d hc
  obtain ⟨rm, d⟩ := words_step d bm
  obtain ⟨rfs, d⟩ := words_step d bfs
  obtain ⟨rvs, d⟩ := words_step d bvs
  obtain ⟨rffs, d⟩ := words_step d bffs
  obtain ⟨rbl, d⟩ := word_step d hbl
  simp only [lm, lfs, lvs, lffs, Nat.reduceMul, Nat.reduceAdd] at r0 r4 r8 rm rfs rvs rffs rbl d
  have hsz : LA.Spec.RuleLayout.headerSize = 1040 := rfl
  have hlen : b.length = 1040 + buf.length + pad.length := by
    rw [← hb]; simp only [List.length_append, le32_length, flatMap_le32_length, lm, lfs, lvs, lffs]
  unfold decode
  simp only [r0, r4, r8, rm, rfs, rvs, rffs, rbl, hsz, d, List.take_left' rfl]
  rw [if_pos (by omega), ← List.drop_drop, d, List.drop_left' rfl]

end LA.Rule
