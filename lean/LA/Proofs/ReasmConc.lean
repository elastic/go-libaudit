/-
Lemmas about Model.ReasmConc.

Method: every invariant is proved for one `step` from three local facts — one about `act`
(the action of the top frame), one about `settle` (plain returns), one about replacing a
thread in the thread list — and then carried along any schedule by `run_induct`.
Where the messages are (`Conserved`, `Flushed`) is multiset reasoning, done on `List.count` so that `omega` can close the
goals; how many calls of a kind are in progress or have returned is a `Weight` that stays `Balanced`; `ClosedOnce` is about
the closed flag, `Uniform` about the groups that wait in thread locals.
-/
import LA.Model.ReasmConc
import LA.Proofs.Reasm

namespace LA.ReasmConc
open LA.Reasm

/-- what `put` keeps of a message: EOE records only mark an event complete. -/
def stored (m : Msg) : List Msg := if m.typ == EOE then [] else [m]

def Ev.puts : Ev → List Msg
  | .put _ m => stored m
  | _ => []

def Ev.dels : Ev → List Msg
  | .cb _ (.group g) => g
  | _ => []

/-- the (non-EOE) messages whose `put` step has run. -/
def putLog (tr : List Ev) : List Msg := tr.flatMap Ev.puts

/-- the messages handed to `ReassemblyComplete` so far. -/
def delivered (tr : List Ev) : List Msg := tr.flatMap Ev.dels

/-- the callbacks a call frame still has to make (thread-local, detached from the table). -/
def Frame.outs : Frame → List Out
  | .evicted o _ => o
  | .deliver o _ => o
  | _ => []

def Frame.pend (f : Frame) : List Msg := groupsOf f.outs

def stackPend (stk : List Frame) : List Msg := stk.flatMap Frame.pend

/-- messages evicted from the table and waiting in some thread's locals to be delivered. -/
def pending (ts : List Thread) : List Msg := ts.flatMap (fun t => stackPend t.stack)

@[simp] theorem putLog_nil : putLog [] = [] := rfl
@[simp] theorem delivered_nil : delivered [] = [] := rfl
@[simp] theorem stackPend_nil : stackPend [] = [] := rfl
@[simp] theorem putLog_append (a b : List Ev) : putLog (a ++ b) = putLog a ++ putLog b := by
  simp [putLog]
@[simp] theorem delivered_append (a b : List Ev) : delivered (a ++ b) = delivered a ++ delivered b := by
  simp [delivered]
@[simp] theorem putLog_cons (e : Ev) (b : List Ev) : putLog (e :: b) = e.puts ++ putLog b := by
  simp [putLog]
@[simp] theorem delivered_cons (e : Ev) (b : List Ev) : delivered (e :: b) = e.dels ++ delivered b := by
  simp [delivered]
@[simp] theorem stackPend_cons (f : Frame) (s : List Frame) : stackPend (f :: s) = f.pend ++ stackPend s := by
  simp [stackPend]
@[simp] theorem stackPend_append (a b : List Frame) : stackPend (a ++ b) = stackPend a ++ stackPend b := by
  simp [stackPend]

@[simp] theorem outs_body (ops : List Op) : (Frame.body ops).outs = [] := rfl
@[simp] theorem outs_clean (t : Int) (k : Meth) : (Frame.clean t k).outs = [] := rfl
@[simp] theorem outs_clear : Frame.clear.outs = [] := rfl
@[simp] theorem outs_evicted (o : List Out) (k : Meth) : (Frame.evicted o k).outs = o := rfl
@[simp] theorem outs_deliver (o : List Out) (k : Meth) : (Frame.deliver o k).outs = o := rfl

/-! `act`, `settle`, `step` and `Frame.done` are only ever analysed through the case principles Lean derives from
their definitions (`act.fun_cases_unfolding` …): one case per line of the definition, the result already reduced.
The cases of `act`: 1 `body []`, 2 push, 3/4 maintain (closed / not), 5/6 close (closed: the CAS fails / not: it
succeeds), 7 `clean`, 8 `clear`, 9 `evicted`, 10 `deliver []`, 11 `deliver (o :: outs)`. -/

theorem step_some {s s' : Sys} {i : Tid} (h : step s i = some s') :
    ∃ t f stk, s.threads[i]? = some t ∧ t.stack = f :: stk ∧
      s' = { st := (act s.st i t.cbs t.cbCount f).st,
             trace := (act s.st i t.cbs t.cbCount f).evs ++ s.trace,
             threads := s.threads.set i (t.after (act s.st i t.cbs t.cbCount f) stk) } := by
  revert h
  fun_cases step s i with
  | case3 t ht f stk hstk => exact fun h => ⟨t, f, stk, ht, hstk, (Option.some.inj h).symm⟩
  | _ => exact nofun

theorem step_eq_none_iff (s : Sys) (i : Tid) :
    step s i = none ↔ ∀ t, s.threads[i]? = some t → t.stack = [] := by
  fun_cases step s i <;> simp_all

theorem run_induct {P : Sys → Prop} (hstep : ∀ s i s', step s i = some s' → P s → P s') :
    ∀ (sched : List Tid) (s : Sys), P s → P (run s sched) := by
  intro sched s
  induction s, sched using run.induct_unfolding with
  | case1 s => exact id
  | case2 s i is s' hs ih => exact fun h => ih (hstep s i s' hs h)
  | case3 s i is _ ih => exact ih

theorem sum_map_set {α : Type} (g : α → Nat) (l : List α) (i : Nat) (a a' : α) (h : l[i]? = some a) :
    ((l.set i a').map g).sum + g a = (l.map g).sum + g a' := by
  obtain ⟨hi, rfl⟩ := List.getElem?_eq_some_iff.mp h
  rw [List.set_eq_take_append_cons_drop, if_pos hi]
  conv => rhs; rw [← List.take_append_drop i l, List.drop_eq_getElem_cons hi]
  simp only [List.map_append, List.map_cons, List.sum_append, List.sum_cons]
  omega

theorem done_cases {f : Frame} {rs : List Ret} (h : f.done = some rs) :
    (f = .body [] ∧ rs = []) ∨ ∃ k, f = .deliver [] k ∧ rs = [k.ret] := by
  revert h
  fun_cases Frame.done f <;> simp [eq_comm]

theorem settle_pend (stk : List Frame) : stackPend (settle stk).1 = stackPend stk := by
  fun_induction settle stk with
  | case2 f stk rs h x ih => rcases done_cases h with ⟨rfl, _⟩ | ⟨k, rfl, _⟩ <;> exact ih
  | _ => rfl

theorem settle_suffix (stk : List Frame) : (settle stk).1 <:+ stk := by
  fun_induction settle stk with
  | case2 f stk rs h x ih => exact ih.trans (List.suffix_cons _ _)
  | _ => exact List.suffix_refl _

theorem dels_cb (i : Tid) (o : Out) : (Ev.cb i o).dels = groupsOf [o] := by
  cases o <;> simp [Ev.dels, groupsOf]

/-- `moved`: what the action takes out of the table (nothing, except for CleanUp and Clear). -/
theorem act_moves (st : St) (i : Tid) (cbs : Nat → Out → List Op) (n : Nat) (f : Frame) :
    ∃ moved, delivered (act st i cbs n f).evs ++ stackPend (act st i cbs n f).repl = f.pend ++ moved ∧
      (moved ++ allMsgs (act st i cbs n f).st.buf).Perm (putLog (act st i cbs n f).evs ++ allMsgs st.buf) := by
  cases f using act.fun_cases_unfolding st i cbs n with
  | case2 m tp tc rest =>
    exact ⟨[], rfl, by simpa [Ev.puts, stored] using put_conserve st m tp⟩
  | case7 t k r =>
    refine ⟨groupsOf r.2, by simp [Frame.pend, Ev.dels], .of_eq ?_⟩
    simpa [cleanUp_append, Ev.puts] using evictStep_conserve st (cleanUp t st.maxSize st.buf)
  | case8 r =>
    refine ⟨groupsOf r.2, by simp [Frame.pend, Ev.dels], .of_eq ?_⟩
    simpa [Ev.puts] using evictStep_conserve st (st.buf, [])
  | case11 o outs k => exact ⟨[], by simp [Frame.pend, dels_cb, groupsOf], by simp [Ev.puts]⟩
  | _ => exact ⟨[], rfl, .refl _⟩

theorem step_moves {s s' : Sys} {i : Tid} (h : step s i = some s') : ∃ moved, ∀ x,
    List.count x (delivered s'.trace) + List.count x (pending s'.threads) =
      List.count x (delivered s.trace) + List.count x (pending s.threads) + List.count x moved ∧
    List.count x moved + List.count x (allMsgs s'.st.buf) + List.count x (putLog s.trace) =
      List.count x (putLog s'.trace) + List.count x (allMsgs s.st.buf) := by
  obtain ⟨t, f, stk, ht, hstk, rfl⟩ := step_some h
  obtain ⟨moved, h1, h2⟩ := act_moves s.st i t.cbs t.cbCount f
  refine ⟨moved, fun x => ?_⟩
  have h1 := congrArg (List.count x) h1
  have h2 := h2.count_eq x
  -- replacing thread `i` changes `pending` by what its stack changes; the plain returns change nothing
  have h3 := sum_map_set (fun t => List.count x (stackPend t.stack)) s.threads i t
    (t.after (act s.st i t.cbs t.cbCount f) stk) ht
  simp only [Thread.after, settle_pend, hstk, stackPend_cons, stackPend_append, pending, List.count_flatMap,
    Function.comp_def, delivered_append, putLog_append, List.count_append] at h1 h2 h3 ⊢
  omega

/-- delivered ∪ pending ∪ buffered = put, as multisets. -/
def Conserved (s : Sys) : Prop :=
  ∀ x, List.count x (delivered s.trace) + List.count x (pending s.threads) +
    List.count x (allMsgs s.st.buf) = List.count x (putLog s.trace)

theorem conserved_step {s s' : Sys} {i : Tid} (h : step s i = some s') (hc : Conserved s) :
    Conserved s' := by
  obtain ⟨moved, hm⟩ := step_moves h
  intro x
  have := hm x
  have := hc x
  omega

theorem pending_init (progs : List Prog) : pending (progs.map mkThread) = [] := by
  simp [pending, mkThread, settle_pend, Frame.pend]

theorem conserved_init (maxSize timeout : Int) (progs : List Prog) : Conserved (init maxSize timeout progs) := by
  intro x; simp [init, pending_init, Reasm.init]

theorem reach_conserved (maxSize timeout : Int) (progs : List Prog) (sched : List Tid) :
    Conserved (run (init maxSize timeout progs) sched) :=
  run_induct (fun _ _ _ => conserved_step) sched _ (conserved_init _ _ _)

/-- a step adds at most one event to the history, and the table is empty after a Clear. -/
theorem step_trace {s s' : Sys} {i : Tid} (h : step s i = some s') :
    s'.trace = s.trace ∨ ∃ e, s'.trace = e :: s.trace ∧ ∀ j outs, e = Ev.clear j outs → s'.st.buf = [] := by
  obtain ⟨t, f, stk, -, -, rfl⟩ := step_some h
  cases f using act.fun_cases_unfolding s.st i t.cbs t.cbCount with
  | case1 | case9 | case10 => exact .inl rfl
  | case8 => exact .inr ⟨_, rfl, fun _ _ _ => rfl⟩
  | _ => exact .inr ⟨_, rfl, nofun⟩

/-- for every Clear in the history: what was put before it is, as a multiset, among delivered ∪ pending. -/
def Flushed (s : Sys) : Prop :=
  ∀ earlier j outs, Ev.clear j outs :: earlier <:+ s.trace →
    ∀ x, List.count x (putLog earlier) ≤ List.count x (delivered s.trace) + List.count x (pending s.threads)

theorem flushed_step {s s' : Sys} {i : Tid} (h : step s i = some s') (hc : Conserved s')
    (hf : Flushed s) : Flushed s' := by
  intro earlier j outs hsuf x
  -- a Clear of an earlier step: by induction, since delivered ∪ pending only grows
  have old (h' : Ev.clear j outs :: earlier <:+ s.trace) :
      List.count x (putLog earlier) ≤ List.count x (delivered s'.trace) + List.count x (pending s'.threads) := by
    obtain ⟨moved, hmv⟩ := step_moves h
    have := hmv x
    have := hf earlier j outs h' x
    omega
  rcases step_trace h with htr | ⟨e, htr, hclr⟩
  · exact old (htr ▸ hsuf)
  · rcases List.suffix_cons_iff.mp (htr ▸ hsuf) with he | hsuf
    · -- the step just taken is this Clear: it empties the table, so all that was put is delivered or pending
      cases he
      have := hc x
      rw [hclr j outs rfl, htr] at this
      rw [htr]
      simp only [putLog_cons, Ev.puts, List.nil_append, allMsgs_nil, List.count_nil] at this
      omega
    · exact old hsuf

theorem reach_flushed (maxSize timeout : Int) (progs : List Prog) (sched : List Tid) :
    Flushed (run (init maxSize timeout progs) sched) :=
  (run_induct (P := fun s => Conserved s ∧ Flushed s)
    (fun _ _ _ h hc => ⟨conserved_step h hc.1, flushed_step h (conserved_step h hc.1) hc.2⟩) sched _
    ⟨conserved_init _ _ _, fun _ _ _ h => by simp [init] at h⟩).2

/-- A counting invariant: weights on frames, return values and history events. If every action and every plain return keeps
the weight (`Sound`), the weight of all threads is that of the history in every reachable state (`Balanced`). -/
structure Weight where
  wf : Frame → Nat
  wr : Ret → Nat
  we : Ev → Nat

namespace Weight

def stack (w : Weight) (stk : List Frame) : Nat := (stk.map w.wf).sum
def rets (w : Weight) (rs : List Ret) : Nat := (rs.map w.wr).sum
def thread (w : Weight) (t : Thread) : Nat := w.stack t.stack + w.rets t.rets
def threads (w : Weight) (ts : List Thread) : Nat := (ts.map w.thread).sum
def trace (w : Weight) (tr : List Ev) : Nat := (tr.map w.we).sum

@[simp] theorem stack_nil (w : Weight) : w.stack [] = 0 := rfl
@[simp] theorem stack_cons (w : Weight) (f : Frame) (s : List Frame) : w.stack (f :: s) = w.wf f + w.stack s := by
  simp [stack]
@[simp] theorem stack_append (w : Weight) (a b : List Frame) : w.stack (a ++ b) = w.stack a + w.stack b := by
  simp [stack]
@[simp] theorem rets_nil (w : Weight) : w.rets [] = 0 := rfl
@[simp] theorem rets_cons (w : Weight) (r : Ret) (s : List Ret) : w.rets (r :: s) = w.wr r + w.rets s := by
  simp [rets]
@[simp] theorem rets_append (w : Weight) (a b : List Ret) : w.rets (a ++ b) = w.rets a + w.rets b := by
  simp [rets]
@[simp] theorem trace_nil (w : Weight) : w.trace [] = 0 := rfl
@[simp] theorem trace_cons (w : Weight) (e : Ev) (s : List Ev) : w.trace (e :: s) = w.we e + w.trace s := by
  simp [trace]
@[simp] theorem trace_append (w : Weight) (a b : List Ev) : w.trace (a ++ b) = w.trace a + w.trace b := by
  simp [trace]

structure Sound (w : Weight) : Prop where
  action : ∀ st i cbs n f, w.stack (act st i cbs n f).repl + w.rets (act st i cbs n f).rets =
          w.wf f + w.trace (act st i cbs n f).evs
  done : ∀ k, w.wf (.deliver [] k) = w.wr k.ret
  body : ∀ ops, w.wf (.body ops) = 0

theorem settle_eq {w : Weight} (hw : w.Sound) (stk : List Frame) :
    w.stack (settle stk).1 + w.rets (settle stk).2 = w.stack stk := by
  fun_induction settle stk with
  | case2 f stk rs h x ih =>
    rcases done_cases h with ⟨rfl, rfl⟩ | ⟨k, rfl, rfl⟩
    · simpa [hw.body] using ih
    · simp only [x, rets_append, rets_cons, rets_nil, stack_cons, hw.done]; omega
  | _ => rfl

def Balanced (w : Weight) (s : Sys) : Prop := w.threads s.threads = w.trace s.trace

theorem balanced_step {w : Weight} (hw : w.Sound) {s s' : Sys} {i : Tid} (h : step s i = some s')
    (hb : w.Balanced s) : w.Balanced s' := by
  obtain ⟨t, f, stk, ht, hstk, rfl⟩ := step_some h
  have h1 := sum_map_set w.thread s.threads i t (t.after (act s.st i t.cbs t.cbCount f) stk) ht
  have h2 := hw.action s.st i t.cbs t.cbCount f
  have h3 := settle_eq hw ((act s.st i t.cbs t.cbCount f).repl ++ stk)
  simp only [Balanced, threads, trace_append] at hb ⊢
  simp only [thread, Thread.after, hstk, rets_append, stack_cons, stack_append] at h1 h3 ⊢
  omega

theorem balanced_init {w : Weight} (hw : w.Sound) (maxSize timeout : Int) (progs : List Prog) :
    w.Balanced (init maxSize timeout progs) := by
  -- a fresh thread weighs nothing: its stack is what `settle` leaves of the body of its main program
  refine List.sum_eq_zero_iff_forall_eq_nat.mpr fun n hn => ?_
  obtain ⟨t, ht, rfl⟩ := List.mem_map.mp hn
  obtain ⟨p, -, rfl⟩ := List.mem_map.mp ht
  have := settle_eq hw [.body p.main]
  simp only [stack_cons, stack_nil, hw.body] at this
  simp only [thread, mkThread, rets_nil]
  omega

theorem rets_le_threads (w : Weight) (ts : List Thread) :
    (ts.map (fun t => w.rets t.rets)).sum ≤ w.threads ts ∧
    ((∀ t ∈ ts, t.stack = []) → (ts.map (fun t => w.rets t.rets)).sum = w.threads ts) := by
  induction ts with
  | nil => exact ⟨Nat.le_refl _, fun _ => rfl⟩
  | cons t ts ih =>
    simp only [threads, thread, List.map_cons, List.sum_cons, List.forall_mem_cons] at ih ⊢
    refine ⟨by omega, fun ⟨h, hts⟩ => ?_⟩
    rw [ih.2 hts, h, stack_nil, Nat.zero_add]

end Weight

theorem reach_balanced {w : Weight} (hw : w.Sound) (maxSize timeout : Int) (progs : List Prog)
    (sched : List Tid) : w.Balanced (run (init maxSize timeout progs) sched) :=
  run_induct (fun _ _ _ => Weight.balanced_step hw) sched _ (Weight.balanced_init hw _ _ _)

theorem sum_map_toNat {α : Type} (p : α → Bool) (l : List α) :
    (l.map (fun a => (p a).toNat)).sum = l.countP p := by
  induction l with
  | nil => rfl
  | cons a l ih => cases h : p a <;> simp [h, ih, Nat.add_comm]

/-- number of CompareAndSwap(closed,0,1) steps that succeeded. -/
def nCasOk (tr : List Ev) : Nat := tr.countP (fun e => match e with | .cas _ true => true | _ => false)
def nCasFail (tr : List Ev) : Nat := tr.countP (fun e => match e with | .cas _ false => true | _ => false)
/-- how many finished calls returned `r`, over all threads. -/
def nRet (r : Ret) (ts : List Thread) : Nat := (ts.map (fun t => t.rets.count r)).sum

theorem nCasOk_append (a b : List Ev) : nCasOk (a ++ b) = nCasOk a + nCasOk b := List.countP_append

/-- the weight that sets the calls that returned `r` against the history events that satisfy `p`; `wf` is 1 on the frames
of such a call in progress whose event is already in the history. -/
def Weight.counting (wf : Frame → Nat) (r : Ret) (p : Ev → Bool) : Weight :=
  ⟨wf, fun r' => (r' == r).toNat, fun e => (p e).toNat⟩

/-- what a balanced counting weight says: the calls that returned `r` are at most the events that satisfy `p`, and exactly
those once every thread has finished. -/
theorem Weight.Balanced.counts {wf : Frame → Nat} {r : Ret} {p : Ev → Bool} {s : Sys}
    (hb : (Weight.counting wf r p).Balanced s) :
    nRet r s.threads ≤ s.trace.countP p ∧ (Terminal s → nRet r s.threads = s.trace.countP p) := by
  have hr : (s.threads.map fun t => (Weight.counting wf r p).rets t.rets).sum = nRet r s.threads :=
    congrArg List.sum (List.map_congr_left fun t _ => sum_map_toNat _ t.rets)
  have ht : (Weight.counting wf r p).trace s.trace = s.trace.countP p := sum_map_toNat _ s.trace
  rw [← hr, ← ht, ← hb]
  exact Weight.rets_le_threads _ _

/-- successful CAS = a successful Close in progress or returned. (`clean _ .close` is never on a stack, Close goes through
`clear`; but `act` turns it into `evicted _ .close`, so `Sound` needs it to weigh the same, here and in `wClr`.) -/
def wCas : Weight := .counting
  (fun | .clear | .clean _ .close | .evicted _ .close | .deliver _ .close => 1 | _ => 0)
  .closeOk (fun | .cas _ true => true | _ => false)

/-- Clear has run = a successful Close past its Clear or returned. -/
def wClr : Weight := .counting
  (fun | .clean _ .close | .evicted _ .close | .deliver _ .close => 1 | _ => 0)
  .closeOk (fun | .clear _ _ => true | _ => false)

/-- failed CAS = Close returned the error. -/
def wErr : Weight := .counting (fun _ => 0) .closeErr (fun | .cas _ false => true | _ => false)

theorem wCas_sound : wCas.Sound where
  action st i cbs n f := by
    cases f using act.fun_cases_unfolding st i cbs n with
    | case7 t k | case9 o k | case10 k | case11 o outs k => cases k <;> rfl
    | _ => rfl
  done k := by cases k <;> rfl
  body _ := rfl

theorem wClr_sound : wClr.Sound where
  action st i cbs n f := by
    cases f using act.fun_cases_unfolding st i cbs n with
    | case7 t k | case9 o k | case10 k | case11 o outs k => cases k <;> rfl
    | _ => rfl
  done k := by cases k <;> rfl
  body _ := rfl

theorem wErr_sound : wErr.Sound where
  action st i cbs n f := by cases f using act.fun_cases_unfolding st i cbs n <;> rfl
  done k := by cases k <;> rfl
  body _ := rfl

@[simp] theorem evictStep_closed (s : St) (r : Buf × Buf) : (evictStep s r).1.closed = s.closed := rfl

theorem act_closed (st : St) (i : Tid) (cbs : Nat → Out → List Op) (n : Nat) (f : Frame) :
    nCasOk (act st i cbs n f).evs + (if st.closed then 1 else 0) =
      (if (act st i cbs n f).st.closed then 1 else 0) ∧
    (∀ j b, Ev.cas j b ∈ (act st i cbs n f).evs → (act st i cbs n f).st.closed = true) := by
  cases f using act.fun_cases_unfolding st i cbs n with
  | case2 => exact ⟨by simp [nCasOk], by simp⟩
  | case5 rest h => exact ⟨Nat.zero_add _, fun _ _ _ => h⟩
  | case6 rest h => exact ⟨by simp [nCasOk, h], fun _ _ _ => rfl⟩
  | _ => exact ⟨Nat.zero_add _, by simp⟩

structure ClosedOnce (s : Sys) : Prop where
  count : nCasOk s.trace = (if s.st.closed then 1 else 0)
  set : (∃ j b, Ev.cas j b ∈ s.trace) → s.st.closed = true

theorem closedOnce_step {s s' : Sys} {i : Tid} (h : step s i = some s') (hc : ClosedOnce s) :
    ClosedOnce s' := by
  obtain ⟨t, f, stk, ht, hstk, rfl⟩ := step_some h
  obtain ⟨h1, h2⟩ := act_closed s.st i t.cbs t.cbCount f
  refine ⟨by have := hc.count; simp only [nCasOk_append]; omega, ?_⟩
  rintro ⟨j, b, hj⟩
  rcases List.mem_append.mp hj with hj | hj
  · exact h2 j b hj
  · -- the flag was set before the step, and `h1` says that it stays set
    cases hcl : (act s.st i t.cbs t.cbCount f).st.closed with
    | true => rfl
    | false => simp [hcl, hc.set ⟨j, b, hj⟩] at h1

theorem reach_closedOnce (maxSize timeout : Int) (progs : List Prog) (sched : List Tid) :
    ClosedOnce (run (init maxSize timeout progs) sched) :=
  run_induct (fun _ _ _ => closedOnce_step) sched _ ⟨rfl, fun ⟨_, _, h⟩ => nomatch h⟩

def GroupOK (o : Out) : Prop := ∀ g, o = .group g → g ≠ [] ∧ ∃ seq, ∀ m ∈ g, m.seq = seq

theorem evictStep_ok {st : St} (hi : Inv st) (r : Buf × Buf) (hr : r.1 ⊆ st.buf) :
    ∀ o ∈ (evictStep st r).2, GroupOK o := by
  rintro o ho g rfl
  simp only [evictStep, callback, List.mem_append, List.mem_map] at ho
  rcases ho with ⟨p, hp, hpg⟩ | ho
  · cases hpg
    exact ⟨hi.nonempty p (hr hp), p.1, hi.uniform p (hr hp)⟩
  · split at ho <;> simp at ho

theorem act_uniform (st : St) (i : Tid) (cbs : Nat → Out → List Op) (n : Nat) (f : Frame)
    (hi : Inv st) (hf : ∀ o ∈ f.outs, GroupOK o) :
    Inv (act st i cbs n f).st ∧ (∀ f' ∈ (act st i cbs n f).repl, ∀ o ∈ f'.outs, GroupOK o) ∧
    (∀ j o, Ev.cb j o ∈ (act st i cbs n f).evs → GroupOK o) := by
  cases f using act.fun_cases_unfolding st i cbs n with
  | case2 m tp tc rest => exact ⟨inv_put hi _ _, by simp, by simp⟩
  | case6 rest h => exact ⟨⟨hi.nodup, hi.uniform, hi.nonempty⟩, by simp, by simp⟩
  | case7 t k =>
    exact ⟨inv_of_sublist hi (cleanUp_snd_suffix _ _ _).sublist,
      by simpa using evictStep_ok hi _ (cleanUp_fst_prefix _ _ _).subset, by simp⟩
  | case8 =>
    exact ⟨inv_of_sublist hi (List.nil_sublist _),
      by simpa using evictStep_ok hi (st.buf, []) (List.Subset.refl _), by simp⟩
  | _ => simp_all

/-- buffer well-formed; every group waiting in a thread or already delivered is one event. -/
structure Uniform (s : Sys) : Prop where
  inv : Inv s.st
  frames : ∀ t ∈ s.threads, ∀ f ∈ t.stack, ∀ o ∈ f.outs, GroupOK o
  trace : ∀ j o, Ev.cb j o ∈ s.trace → GroupOK o

theorem uniform_step {s s' : Sys} {i : Tid} (h : step s i = some s') (hu : Uniform s) : Uniform s' := by
  obtain ⟨t, f, stk, ht, hstk, rfl⟩ := step_some h
  have htm : t ∈ s.threads := List.mem_of_getElem? ht
  have hft : ∀ f' ∈ t.stack, ∀ o ∈ f'.outs, GroupOK o := hu.frames t htm
  obtain ⟨hinv, hrepl, hevs⟩ := act_uniform s.st i t.cbs t.cbCount f hu.inv
    (hft f (by rw [hstk]; exact List.mem_cons_self ..))
  refine ⟨hinv, ?_, ?_⟩
  · intro t' ht' f' hf' o ho
    rcases List.mem_or_eq_of_mem_set ht' with ht' | rfl
    · exact hu.frames t' ht' f' hf' o ho
    · have hf'' : f' ∈ (act s.st i t.cbs t.cbCount f).repl ++ stk :=
        (settle_suffix _).subset (by simpa [Thread.after] using hf')
      rcases List.mem_append.mp hf'' with hf'' | hf''
      · exact hrepl f' hf'' o ho
      · exact hft f' (by rw [hstk]; exact List.mem_cons_of_mem _ hf'') o ho
  · intro j o ho
    rcases List.mem_append.mp ho with ho | ho
    · exact hevs j o ho
    · exact hu.trace j o ho

theorem reach_uniform (maxSize timeout : Int) (progs : List Prog) (sched : List Tid) :
    Uniform (run (init maxSize timeout progs) sched) := by
  refine run_induct (fun _ _ _ => uniform_step) sched _ ⟨inv_init _ _, fun t ht f hf o ho => ?_, fun _ _ h => nomatch h⟩
  -- a fresh thread has at most the body of its main program on its stack
  obtain ⟨p, _, rfl⟩ := List.mem_map.mp ht
  cases List.mem_singleton.mp ((settle_suffix [.body p.main]).subset hf)
  cases ho

end LA.ReasmConc
