/-
C09 — Coalescing keeps every record's fields, the event identity and file facts.

Theorems about `LA.Coalesce.coalesce` (Model/Coalesce.lean), for every table set `T`
(normalisations, syscall/record-type indexes, event-type ranges — the driver and the data
obligations instantiate `T` with the regenerated `genTables`), every list of message views
of any length and any field values.
-/
import LA.Proofs.CoalesceMain
import LA.Proofs.StateObligations.Coalesce
import LA.Proofs.StateObligations.Auparse

namespace LA.Coalesce

/-- the groups the conservation clause is claimed for (`recs` = the records after the
trailing EOE has been dropped): every `Data()` result is a map; an EXECVE record carries
`argc`, `a0 … a(argc-1)` only; a group of two or more records has exactly one SYSCALL record
and at most one EXECVE record; and the SYSCALL record carries `items` (as every kernel
SYSCALL record does) unless no AVC/other record carries that key.  Mirrored by
`wellFormedC09` in harness/cmd/drive/coalesce.go. -/
structure WellFormed (recs : List View) : Prop where
  recOK : ∀ m ∈ recs, RecOK m
  oneSyscall : recs.length ≥ 2 → nSys recs = 1
  oneExecve : nExec recs ≤ 1
  items : recs.length ≥ 2 → ∀ s ∈ recs, s.typ = SYSCALL →
    (∃ d, s.data = some d ∧ hasKey kItems d = true) ∨
    (∀ m ∈ recs, IsOther m.typ → ∀ d, m.data = some d → lookup kItems d = none)

/-- `Located e k v` (Proofs/CoalesceMain.lean), spelled out: the pair is in Data (also under
`socket_`+k), the user ids, the SELinux labels (`subj_`+label), Result, Session, some PATH
record, `process.args[i]` for `k = a<i>`, a `process.*` field for
pid/ppid/proctitle/comm/exe/cwd, or it is the source address. -/
theorem C09_located_iff (e : Event) (k v : Bytes) :
    Located e k v ↔
      (lookup k e.data = some v ∨ lookup (kSocket_ ++ k) e.data = some v ∨
       (lookup k e.ids = some v ∨ (hasPrefix kSubj_ k = true ∧ lookup (k.drop 5) e.selinux = some v) ∨
        (k = kResult ∧ e.result = v) ∨ (k = kSes ∧ e.session = v) ∨ (∃ p ∈ e.paths, (k, v) ∈ p)) ∨
       (∃ i, k = argKey i ∧ e.args[i]? = some v) ∨
       ((k = kPid ∧ e.pid = v) ∨ (k = kPpid ∧ e.ppid = v) ∨ (k = kProctitle ∧ e.title = v) ∨
        (k = kComm ∧ e.pname = v) ∨ (k = kExe ∧ e.exe = v) ∨ (k = kCwd ∧ e.cwd = v)) ∨
       (∃ a, e.source = some a ∧ a.ip = v)) := Iff.rfl

/-- `Warned e typ k` (Proofs/CoalesceSteps.lean), spelled out: a duplicate-key warning for
`k` (or `socket_`+k) from a record of type `typ`, or — for a SOCKADDR record — the "syscall
is unknown" warning, or — for an EXECVE record — one of its argc/arg warnings. -/
theorem C09_warned_iff (e : Event) (typ : Nat) (k : Bytes) :
    Warned e typ k ↔
      (Warn.dupKey k typ ∈ e.warnings ∨ Warn.dupKey (kSocket_ ++ k) typ ∈ e.warnings ∨
       (typ = SOCKADDR ∧ Warn.sockaddrNoSyscall ∈ e.warnings) ∨
       (typ = EXECVE ∧ (Warn.noArgc ∈ e.warnings ∨ Warn.badArgc ∈ e.warnings ∨ ∃ κ, Warn.noArg κ ∈ e.warnings))) :=
  Iff.rfl

/-! ### constants the model shares with the Go sources (regenerated) -/

theorem C09_consts :
    SYSCALL = LA.Gen.CoalesceConsts.auditSyscall ∧ PATH = LA.Gen.CoalesceConsts.auditPath ∧
    SOCKADDR = LA.Gen.CoalesceConsts.auditSockaddr ∧ EXECVE = LA.Gen.CoalesceConsts.auditExecve ∧
    EOE = LA.Gen.CoalesceConsts.auditEOE ∧
    LA.Gen.CoalesceConsts.modeTypeBits = [19, 21, 24, 25, 26, 27, 31] ∧
    LA.Gen.CoalesceConsts.modeDirBit = 31 ∧ LA.Gen.CoalesceConsts.modeCharDeviceBit = 21 ∧
    LA.Gen.CoalesceConsts.modeNamedPipeBit = 25 ∧ LA.Gen.CoalesceConsts.modeSymlinkBit = 27 ∧
    LA.Gen.CoalesceConsts.modeSocketBit = 24 ∧ LA.Gen.CoalesceConsts.modeBlockDeviceBits = [13, 14] := by
  decide

/-- The event carries the timestamp, sequence and record type of the first record (after
the trailing EOE is dropped) and the category `GetAuditEventType` gives that type. -/
theorem C09_identity (T : Tables) (msgs : List View) (e : Event) (h : coalesce T msgs = .ok e) :
    ∃ first rest, filterEOE msgs = first :: rest ∧
      e.ts = first.ts ∧ e.seq = first.seq ∧ e.typ = first.typ ∧ e.cat = categoryOf T first.typ := by
  obtain ⟨e0, e1, h0, h1, rfl⟩ := coalesce_ok_split h
  have hn := applyNorm_nframe T e0 e1 h1
  obtain ⟨first, rest, hm, f⟩ := assemble_fields h0
  exact ⟨first, rest, hm, hn.ts.trans f.ts, hn.seq.trans f.seq, hn.typ.trans f.typ, hn.cat.trans f.cat⟩

/-- No records: an error and no event.  Two or more records without a SYSCALL record: an
error and no event.  And an error is returned in these two cases only. -/
theorem C09_errors (T : Tables) (msgs : List View) :
    (filterEOE msgs = [] → coalesce T msgs = .err .empty) ∧
    ((filterEOE msgs).length ≥ 2 → (∀ m ∈ filterEOE msgs, m.typ ≠ SYSCALL) →
      coalesce T msgs = .err .noSyscall) ∧
    (∀ x, coalesce T msgs = .err x →
      (x = .empty ∧ filterEOE msgs = []) ∨
      (x = .noSyscall ∧ (filterEOE msgs).length ≥ 2 ∧ ∀ m ∈ filterEOE msgs, m.typ ≠ SYSCALL)) :=
  ⟨fun h => coalesce_err_iff.mpr (Or.inl ⟨rfl, h⟩), fun hl hs => coalesce_err_iff.mpr (Or.inr ⟨rfl, hl, hs⟩),
   fun _ => coalesce_err_iff.mp⟩

/-- For a well-formed group, every key/value pair that any record's
`Data()` reports is present somewhere in the event, or a warning naming the record type and
the key (or the record as a whole) is attached; the only pair dropped on purpose is `items`
of the SYSCALL record of a compound event. -/
theorem C09_conservation (T : Tables) (msgs : List View) (e : Event)
    (hwf : WellFormed (filterEOE msgs)) (h : coalesce T msgs = .ok e) :
    ∀ m ∈ filterEOE msgs, ∀ d, m.data = some d → ∀ k v, (k, v) ∈ d →
      Located e k v ∨ Warned e m.typ k ∨
      ((filterEOE msgs).length ≥ 2 ∧ m.typ = SYSCALL ∧ k = kItems) := by
  obtain ⟨e0, e1, h0, h1, rfl⟩ := coalesce_ok_split h
  intro m hm d hd k v hkv
  -- where the pair is once the records are assembled; `finish_kept` takes it from there
  suffices hk : Held e0 m.typ k v ∨ ((filterEOE msgs).length ≥ 2 ∧ m.typ = SYSCALL ∧ k = kItems) from
    hk.elim (fun h => (finish_kept h1 h).imp_right Or.inl) (fun h => Or.inr (Or.inr h))
  have hok := hwf.recOK m hm
  rcases assemble_ok_cases h0 with ⟨m', hm', rfl⟩ | ⟨first, second, rest, s, hrecs, hs, rfl⟩
  · rw [hm'] at hm
    cases List.mem_singleton.mp hm
    exact Or.inl ((newEvent_kept T m m hd (hok.nodup d hd) hkv).elim (fun h => .settled (.stable h)) .data)
  · rw [hrecs] at hm hwf ⊢
    have hlen : (first :: second :: rest).length ≥ 2 := by simp
    have hns := hwf.oneSyscall hlen
    have hsm : s ∈ first :: second :: rest := List.mem_of_find?_eq_some hs
    have hst : s.typ = SYSCALL := by simpa using List.find?_some hs
    by_cases hmt : m.typ = SYSCALL
    · -- the SYSCALL record: routed by newEvent
      cases unique_syscall hns hm hsm hmt hst
      by_cases hk : k = kItems
      · exact Or.inr ⟨hlen, hmt, hk⟩
      · exact Or.inl (.settled (Settled.mono (foldl_step_sframe _ _)
          ((newEvent_kept T first m hd (hok.nodup d hd) hkv).elim .stable (.data hk))))
    · -- any other record: kept by the loop
      refine Or.inl (fold_kept _ _ (by omega) hwf.oneExecve ?_ hwf.recOK hm hmt hd hkv)
      refine (hwf.items hlen s hsm hst).imp_left fun ⟨ds, hds, hi⟩ => ?_
      unfold hasKey at hi ⊢
      rwa [(newEvent_lookup T first s hds ((hwf.recOK s hsm).nodup ds hds) kItems).2.2 (by decide)]

/-- The `items` hypothesis of `WellFormed` cannot be dropped: if the SYSCALL record has no
`items` key, an `items` pair contributed by an earlier record is deleted without a warning
(the SYSCALL case of the record loop deletes the key unconditionally). -/
def C09_conservation_without_items_guard : Prop :=
  ∀ (T : Tables) (msgs : List View) (e : Event), coalesce T msgs = .ok e →
    ∀ m ∈ filterEOE msgs, ∀ d, m.data = some d → ∀ k v, (k, v) ∈ d →
      Located e k v ∨ Warned e m.typ k ∨ ((filterEOE msgs).length ≥ 2 ∧ m.typ = SYSCALL ∧ k = kItems)

/-- `event.Paths` is exactly the `Data()` maps of the PATH records that parsed, in record
order (compound events; a single record yields no paths). -/
theorem C09_paths (T : Tables) (msgs : List View) (e : Event) (h : coalesce T msgs = .ok e) :
    e.paths = if (filterEOE msgs).length ≥ 2 then
      ((filterEOE msgs).filter (fun m => decide (m.typ = PATH))).flatMap (fun m => m.data.toList) else [] :=
  coalesce_paths T msgs e h

/-- `FileMirrors e what p` (Proofs/CoalesceMain.lean), spelled out. -/
theorem C09_file_mirrors_iff (e : Event) (objectWhat : Bytes) (p : KV) :
    FileMirrors e objectWhat p ↔
      ∃ f, e.file = some f ∧ f.path = getD kName p ∧ f.inode = getD kInode p ∧ f.device = getD kRdev p ∧
        f.owner = [] ∧ f.group = [] ∧
        match lookup kMode p with
        | none =>
          f.mode = [] ∧ f.uid = getD kOuid p ∧ f.gid = getD kOgid p ∧ f.selinux = objLabels p ∧
          e.objType = objectWhat
        | some mv =>
          match parseUint 8 64 mv with
          | none =>
            f.mode = [] ∧ f.uid = [] ∧ f.gid = [] ∧ f.selinux = [] ∧ Warn.fileObj ∈ e.warnings ∧
            e.objType = objectWhat
          | some n =>
            f.mode = oct4 (n % 4096) ∧ f.uid = getD kOuid p ∧ f.gid = getD kOgid p ∧ f.selinux = objLabels p ∧
            e.objType = classifyMode (n % 4294967296) objectWhat := Iff.rfl

/-- the SELinux labels of the file summary: every `obj_<label>` pair of the PATH record is
there under `<label>`. -/
theorem C09_file_labels (p : KV) (hn : NoDupKeys p) (k v : Bytes) (h : (k, v) ∈ p)
    (hp : hasPrefix kObj_ k = true) : lookup (k.drop 4) (objLabels p) = some v :=
  (lookup_foldl_putIf (p := hasPrefix kObj_) (τ := (·.drop 4)) (kObj_ ++ ·) (fun _ => append_drop_of_hasPrefix)
    hn [] hp).trans (by rw [lookup_of_mem_nodup hn h]; rfl)

/-- When the normalisation chosen for the event describes a file or
filesystem object and the event has PATH records, `setFileObject` selects the record
`selectPath` names (never out of range here) and the file summary mirrors it: path, inode,
device (`rdev`), owner ids, SELinux labels (`obj_*`), the permission bits `mode & 07777`
printed as four octal digits — for **every** mode value that parses — and the object type
`classifyMode` gives the mode (see `C09_type_*`). -/
theorem C09_file (T : Tables) (msgs : List View) (e e0 : Event) (ni : Nat)
    (h : coalesce T msgs = .ok e) (h0 : assemble T msgs = .ok e0)
    (hsel : selectNorm T (setHowDefaults e0) = some ni)
    (hwhat : (normAt T ni).objectWhat = vFile ∨ (normAt T ni).objectWhat = vFilesystem)
    (hpaths : e0.paths ≠ []) :
    ∃ p, selectPath e0.paths (normAt T ni).objectPathIndex = some p ∧
      FileMirrors e (normAt T ni).objectWhat p := by
  obtain ⟨e0', e1, h0', h1, rfl⟩ := coalesce_ok_split h
  cases h0.symm.trans h0'
  obtain ⟨hn, _⟩ | ⟨ni', e2, hn, h2, rfl⟩ := applyNorm_ok_cases h1
  · cases hsel.symm.trans hn
  cases hsel.symm.trans hn
  -- `setEcs` has set the object type to the normalisation's and left Paths alone
  generalize hE : setEcs T ni _ _ = e' at h2
  have hp2 : e'.paths = e0.paths := hE ▸ ((setHowDefaults_frame e0).toNFrame.trans (setEcs_nframe T ni _ _)).paths
  have hot : e'.objType = (normAt T ni).objectWhat := hE ▸ rfl
  rw [setObject_file hwhat (hp2 ▸ hpaths), hp2] at h2
  cases hp : selectPath e0.paths (normAt T ni).objectPathIndex with
  | none => rw [hp] at h2; cases h2
  | some p =>
    rw [hp] at h2
    cases h2
    have ht := (applyTail_frame (normAt T ni) (fileFromPath e' p)).toTFrame.trans (addProcess_tframe _)
    exact ⟨p, rfl, (hot ▸ fileFromPath_mirrors e' p).mono ht.file ht.objType
      (mem_of_extends (applyTail_frame (normAt T ni) _).warn)⟩

/-- **All mode values.**  Whatever octal numeral the PATH record's `mode` field carries —
any digits, any length, with or without the kernel's leading `0`, in particular the numeral
of each of the 2^16 `st_mode` values — `ParseUint` reads its positional value `n`, and then
(by `C09_file`) the file summary's mode is `oct4 (n % 4096)`, i.e. `mode & 07777` as four
octal digits, and the object type is `classifyMode (n % 2^32)`. -/
theorem C09_mode_numeral (ds : List Nat) (hne : ds ≠ []) (hd : ∀ d ∈ ds, d < 8)
    (hv : octValue ds 0 < 2 ^ 64) (e : Event) (p : KV) (what : Bytes)
    (hm : lookup kMode p = some (ds.map digitChar)) (hf : FileMirrors e what p) :
    ∃ f, e.file = some f ∧ f.mode = oct4 (octValue ds 0 % 4096) ∧
      e.objType = classifyMode (octValue ds 0 % 4294967296) what := by
  obtain ⟨f, hfile, _, _, _, _, _, hrest⟩ := hf
  rw [hm] at hrest
  simp only [parseUint_octal ds hne hd hv] at hrest
  obtain ⟨hmode, -, -, -, htyp⟩ := hrest
  exact ⟨f, hfile, hmode, htyp⟩

/-- e.g. the numeral `040755`: value 16877, printed mode `0755`. -/
example : octValue [0, 4, 0, 7, 5, 5] 0 = 16877 ∧ [0, 4, 0, 7, 5, 5].map digitChar = b! "040755" ∧
    oct4 (16877 % 4096) = b! "0755" := by decide +kernel

/-- the object type the property asks for, from the file-type bits `mode & 0170000`. -/
def specType (n : Nat) : Option Bytes :=
  let t := n / 4096 % 16
  if t = 8 then some vFile
  else if t = 4 then some vDirectory
  else if t = 2 then some vCharDevice
  else if t = 6 then some vBlockDevice
  else if t = 1 then some vNamedPipe
  else if t = 10 then some vSymlink
  else if t = 12 then some vSocket
  else none

/-- the full statement: for every st_mode the object type agrees with the file-type bits.
False of the code as it is (known finding KF-C09-objtype). -/
def C09_type_full : Prop :=
  ∀ (n : Nat) (cur t : Bytes), n < 65536 → specType n = some t → classifyMode n cur = t

/-- mode 040755 (a directory) is classified `file`. -/
theorem C09_type_counterexample : ¬ C09_type_full := by
  intro h
  have := h 16877 [] vDirectory (by decide) (by decide +kernel)
  revert this
  decide +kernel

/-- what does hold: every st_mode value (all 2^16) is classified `file`, because
`os.FileMode` keeps its type bits at positions ≥ 19 — so the object type agrees with the
file-type bits exactly for regular files (S_IFREG).  Missing w.r.t. `C09_type_full`:
directories, character/block devices, named pipes, symlinks and sockets. -/
theorem C09_type_partial (n : Nat) (cur : Bytes) (hn : n < 65536) :
    classifyMode n cur = vFile ∧ (specType n = some vFile → classifyMode n cur = vFile) := by
  have hb : ∀ i, 16 ≤ i → n.testBit i = false := by
    intro i hi
    apply Nat.testBit_lt_two_pow
    calc n < 65536 := hn
      _ = 2 ^ 16 := by decide
      _ ≤ 2 ^ i := Nat.pow_le_pow_right (by omega) hi
  have : classifyMode n cur = vFile := by
    unfold classifyMode
    simp [hb 19 (by decide), hb 21 (by decide), hb 24 (by decide), hb 25 (by decide), hb 26 (by decide),
      hb 27 (by decide), hb 31 (by decide)]
  exact ⟨this, fun _ => this⟩

/-! ### non-vacuity, and the corner the `items` hypothesis excludes -/

/-- a one-entry table set for the examples (the theorems above hold for every `T`). -/
def toyNorm : Norm :=
  { (default : Norm) with action := b! "opened-file", objectWhat := vFile, ecsCategory := [b! "file"], catCap := 1 }
def toyT : Tables :=
  { norms := [toyNorm], syscalls := [(b! "open", 0)], recordTypes := [], ranges := [(1300, 1399, 15)], defaultCat := 0 }

def exSys : View := { typ := 1300, seq := 7, ts := 1000, tags := [b! "k"], data := some [(kSyscall, b! "open"), (kItems, b! "1"), (b! "uid", b! "0"), (kResult, b! "success"), (kPid, b! "42")] }
def exCwd : View := { typ := 1307, seq := 7, ts := 1000, tags := [], data := some [(kCwd, b! "/"), (kPid, b! "43")] }
def exExecve : View := { typ := 1309, seq := 7, ts := 1000, tags := [], data := some [(kArgc, b! "1"), (b! "a0", b! "ls")] }
def exPath : View := { typ := 1302, seq := 7, ts := 1000, tags := [], data := some [(kName, b! "/tmp"), (kMode, b! "040755"), (kOuid, b! "0")] }
def exEOE : View := { typ := 1320, seq := 7, ts := 1000, tags := [], data := none }

/-- SYSCALL group with colliding `pid`, an EXECVE record, a directory PATH record, trailing EOE. -/
def exMsgs : List View := [exSys, exCwd, exExecve, exPath, exEOE]

/-- the hypotheses of `C09_conservation` are satisfiable by a non-trivial group … -/
example : WellFormed (filterEOE exMsgs) := by
  -- everything decidable in one kernel evaluation; the EXECVE clause (unbounded `argc n`) is instantiated from it
  obtain ⟨hrec, hsys, hexec, hargs⟩ : (∀ m ∈ filterEOE exMsgs, (∀ d ∈ m.data, NoDupKeys d) ∧ (m.typ = EXECVE → m = exExecve) ∧
      (m.typ = SYSCALL → ∃ d ∈ m.data, hasKey kItems d = true)) ∧ nSys (filterEOE exMsgs) = 1 ∧ nExec (filterEOE exMsgs) ≤ 1 ∧
      ∀ d ∈ exExecve.data, lookup kArgc d = some (b! "1") ∧ parseUint 10 32 (b! "1") = some 1 ∧
        ∀ k ∈ keys d, k = kArgc ∨ ∃ i, i < 1 ∧ k = argKey i := by decide +kernel
  refine ⟨fun m hm => ⟨(hrec m hm).1, fun ht d hd argc n ha hp k hk => ?_⟩, fun _ => hsys, hexec,
    fun _ s hs ht => .inl ((hrec s hs).2.2 ht)⟩
  cases (hrec m hm).2.1 ht
  obtain ⟨h1, h2, h3⟩ := hargs d hd
  cases h1.symm.trans ha
  cases h2.symm.trans hp
  exact h3 k hk

/-- … on which the model returns an event: identity of the first record, the colliding
`pid` of the CWD record warned about, the first `pid` moved to `process.pid`, the args kept,
the directory's mode printed as `0755` — and its object type `file` (the known finding). -/
example : (match coalesce toyT exMsgs with
    | .ok e =>
      decide (e.seq = 7 ∧ e.ts = 1000 ∧ e.typ = 1300 ∧ e.cat = 15) &&
      decide (Warn.dupKey kPid 1307 ∈ e.warnings) && decide (e.pid = b! "42") &&
      decide (e.args = [b! "ls"]) && decide (e.paths.length = 1) &&
      decide (e.file.map (·.mode) = some (b! "0755")) && decide (e.file.map (·.path) = some (b! "/tmp")) &&
      decide (e.objType = vFile) && decide (lookup kItems e.data = none)
    | _ => false) = true := by decide +kernel

/-- the hypotheses of `C09_file` are satisfiable. -/
example : ∃ e0, assemble toyT exMsgs = .ok e0 ∧ selectNorm toyT (setHowDefaults e0) = some 0 ∧
    (normAt toyT 0).objectWhat = vFile ∧ e0.paths ≠ [] := by
  refine ⟨_, rfl, ?_⟩; decide +kernel

/-- errors: an empty group and a two-record group without SYSCALL. -/
example : coalesce toyT [] = .err .empty ∧ coalesce toyT [exEOE] = .err .empty ∧
    coalesce toyT [exCwd, exPath] = .err .noSyscall := by decide +kernel

def ctrAvc : View := { typ := 1400, seq := 1, ts := 1, tags := [], data := some [(kItems, b! "5")] }
def ctrSys : View := { typ := 1300, seq := 1, ts := 1, tags := [], data := some [(kSyscall, b! "open")] }
def ctrEvent : Event :=
  { ts := 1, seq := 1, cat := 0, typ := 1400, result := vUnknown, data := [(kSyscall, b! "open")],
    warnings := [Warn.noNorm] }

/-- Without the `items` hypothesis conservation fails: an AVC record's `items=5` ahead of a
SYSCALL record that has no `items` key is added to Data and then deleted by the SYSCALL case
of the loop, with no warning.  (No kernel SYSCALL record lacks `items`; reported as an
observation, see design_notes/coalesce.md.) -/
theorem C09_conservation_items_counterexample : ¬ C09_conservation_without_items_guard := by
  intro h
  -- `Located` and `Warned` quantify over an unbounded index (`∃ i`, `∃ κ`), so neither is decidable: the
  -- places of the concrete event are refuted one by one, in the order of `C09_located_iff` and
  -- `C09_warned_iff`; a closed lookup or a membership in `[]` by `cases`, a comparison of keys by evaluation
  rcases h toyT [ctrAvc, ctrSys] ctrEvent (by decide +kernel) ctrAvc (.head _) _ rfl kItems (b! "5") (.head _) with hl | hw | ⟨_, ht, _⟩
  · rcases hl with h | h | h | ⟨i, _, hi⟩ | h | ⟨a, ha, _⟩
    · cases h
    · cases h
    · -- `StableLoc`
      rcases h with h | ⟨_, h⟩ | ⟨h, _⟩ | ⟨h, _⟩ | ⟨p, hp, _⟩
      · cases h
      · cases h
      · revert h; decide +kernel
      · revert h; decide +kernel
      · cases hp
    · cases hi
    · -- `ProcLoc`
      rcases h with ⟨h, _⟩ | ⟨h, _⟩ | ⟨h, _⟩ | ⟨h, _⟩ | ⟨h, _⟩ | ⟨h, _⟩ <;> revert h <;> decide +kernel
    · cases ha
  · rcases hw with h | h | ⟨h, _⟩ | ⟨h, _⟩ <;> revert h <;> decide +kernel
  · revert ht; decide +kernel

end LA.Coalesce

/-! ### the code keeps nothing between calls that the model does not have -/

/-- Package aucoalesce keeps nothing between calls except the two id caches used by `ResolveIDs`, and package auparse
nothing at all (regenerated list, see LA.Proofs.StateFacts): `CoalesceMessages` is a function of its argument. -/
theorem C09_coalescer_keeps_nothing_between_calls : LA.StateFacts.ofPkg "aucoalesce" = LA.StateFacts.coalesceIdCaches ∧ LA.StateFacts.ofPkg "auparse" = [] :=
  ⟨LA.StateFacts.ofPkg_aucoalesce, LA.StateFacts.ofPkg_auparse⟩

/-- What package aucoalesce reads of the process it runs in is the user and group databases and the clock of the id
caches — both only under ResolveIDs — and package auparse reads nothing (`envReads`, regenerated with go/types on every
run). CoalesceMessages is a function of the messages and the tables. -/
theorem C09_environment_is_the_id_databases :
    LA.StateFacts.envOf "aucoalesce" = LA.StateFacts.coalesceEnv ∧ LA.StateFacts.envOf "auparse" = [] := ⟨LA.StateFacts.envOf_aucoalesce, LA.StateFacts.envOf_auparse⟩
