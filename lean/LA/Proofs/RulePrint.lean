/-
ToCommandLine succeeds on everything rule.Build produces: every triple Build appends has names for its field and
operator (`tripOk`, carried by `PrintInv`), and with the strings aligned the field printer finds a string wherever it
asks for one.
-/
import LA.Proofs.RuleWire
import LA.Proofs.RuleBounds

namespace LA.Rule
open LA

/-- what ToCommandLine needs of a (field, value, operator) triple to print it. -/
def tripOk (t : Nat × Nat × Nat) : Bool :=
  (revLookup LA.Gen.RuleTables.operatorsTable t.2.2).isSome &&
  (if t.1 == LA.Gen.RuleTables.archField then (getDisplayArch t.2.1).isSome
   else if t.1 == LA.Gen.RuleTables.fieldCompare then
     match LA.Gen.RuleTables.comparisonsTable.find? (fun e => e.2.2 == t.2.1) with
     | none => false
     | some e => (revLookup LA.Gen.RuleTables.fieldsTable (min e.1 e.2.1)).isSome &&
                 (revLookup LA.Gen.RuleTables.fieldsTable (max e.1 e.2.1)).isSome
   else (revLookup LA.Gen.RuleTables.fieldsTable t.1).isSome)

theorem revLookup_of_lookupB {l : List (Bytes × Nat)} {k : Bytes} {v : Nat} (h : lookupB l k = some v) :
    (revLookup l v).isSome = true := by
  obtain ⟨p, hp, hv⟩ := lookupB_mem h
  unfold revLookup
  rw [Option.isSome_map, List.find?_isSome]
  exact ⟨p, hp, by simp [hv]⟩

theorem revLookup_mem {l : List (Bytes × Nat)} {k : Bytes} {v : Nat} (h : revLookup l v = some k) : (k, v) ∈ l := by
  obtain ⟨p, hf, rfl⟩ := Option.map_eq_some_iff.mp h
  have hv : p.2 = v := by simpa using List.find?_some hf
  rw [← hv]; exact List.mem_of_find?_eq_some hf

theorem fieldName_code {f : Nat} {lhs : Bytes} (h : revLookup LA.Gen.RuleTables.fieldsTable f = some lhs) :
    lookupB LA.Gen.RuleTables.fieldsTable lhs = some f := by
  have cert : ∀ p ∈ LA.Gen.RuleTables.fieldsTable, lookupB LA.Gen.RuleTables.fieldsTable p.1 = some p.2 := by decide +kernel
  exact cert _ (revLookup_mem h)

theorem opName_code {opc : Nat} {opS : Bytes} (h : revLookup LA.Gen.RuleTables.operatorsTable opc = some opS) :
    lookupB LA.Gen.RuleTables.operatorsTable opS = some opc := by
  have cert : ∀ p ∈ LA.Gen.RuleTables.operatorsTable, lookupB LA.Gen.RuleTables.operatorsTable p.1 = some p.2 := by decide +kernel
  exact cert _ (revLookup_mem h)

theorem getDisplayArch_of_getArch {rhs : Bytes} {p : Bytes × Nat} (h : getArch rhs = some p) :
    (getDisplayArch p.2).isSome = true := by
  obtain ⟨q, hq, hc⟩ := archCode_mem (getArch_code h)
  unfold getDisplayArch
  split
  · rfl
  · split
    · rfl
    · exact Option.isSome_iff_exists.mpr (lookupN_eq_some_of_mem (List.mem_map.mpr ⟨q, hq, hc⟩))

theorem filterValue_arch {env : Env} {r : RuleData} {opc : Nat} {rhs : Bytes} {v : Nat} {s a : Option Bytes}
    (h : filterValue env r LA.Gen.RuleTables.archField opc rhs = some (v, s, a)) :
    ∃ p, getArch rhs = some p ∧ v = p.2 := by
  rcases filterValue_some h with ⟨hs, _⟩ | ⟨_, _, _, p, hp, hv, _⟩ | ⟨_, ha, _⟩
  · rw [archField_not_string] at hs; cases hs
  · exact ⟨p, hp, hv⟩
  · simp at ha

/-- the invariant of everything Build accumulates under which ToCommandLine succeeds on the rule's bytes. The printer needs
`list`, `action` and `trips`; `words` is what encoder and decoder need in front of it: every word fits, so the bytes read
back as the rule that is then printed. -/
structure PrintInv (r : RuleData) : Prop where
  words : WordsInv r
  list : (getList r.flags).isSome = true
  action : (getAction r.action).isSome = true
  trips : ∀ t ∈ r.trips, tripOk t = true

theorem printInv_ruleDataOf {env : Env} (he : EnvOk env) {rule : Rule} {r : RuleData} (h : ruleDataOf env rule = some r) :
    PrintInv r := by
  refine have hp := (ruleDataOf_induct (env := env) (fun r => (getList r.flags).isSome = true ∧
      (getAction r.action).isSome = true ∧ ∀ t ∈ r.trips, tripOk t = true) ?_ ?_ ?_ ?_ ?_ h)
    ⟨wordsInv_ruleDataOf he h, hp.1, hp.2.1, hp.2.2⟩
  · intro p hp q hq
    exact ⟨by rw [(listNames_spec p hp).2]; rfl, by rw [(actionNames_spec q hq).2]; rfl, by simp⟩
  · intro r l o rhs opc f v s a hp hop hfl _ hv
    refine ⟨hp.1, hp.2.1, forall_mem_snoc hp.2.2 ?_⟩
    unfold tripOk
    simp only [revLookup_of_lookupB hop, Bool.true_and]
    by_cases ha : (f == LA.Gen.RuleTables.archField) = true
    · rw [if_pos ha]
      cases eq_of_beq ha
      obtain ⟨p, hg, rfl⟩ := filterValue_arch hv
      exact getDisplayArch_of_getArch hg
    · rw [if_neg ha]
      simp only [field_ne_fieldCompare hfl, Bool.false_eq_true, if_false]
      exact revLookup_of_lookupB hfl
  · intro r o opc c hp hop _ hc
    refine ⟨hp.1, hp.2.1, forall_mem_snoc hp.2.2 ?_⟩
    have named : LA.Gen.RuleTables.comparisonsTable.all (fun e =>
        (revLookup LA.Gen.RuleTables.fieldsTable (min e.1 e.2.1)).isSome &&
        (revLookup LA.Gen.RuleTables.fieldsTable (max e.1 e.2.1)).isSome) = true := by decide +kernel
    unfold tripOk
    simp only [revLookup_of_lookupB hop, Bool.true_and, fieldCompare_ne_arch, Bool.false_eq_true, if_false, beq_self_eq_true, if_true]
    obtain ⟨e0, he0, hc0⟩ := hc
    obtain ⟨e1, hf2⟩ := Option.isSome_iff_exists.mp
      (List.find?_isSome.mpr ⟨e0, he0, by simp [hc0]⟩ : (LA.Gen.RuleTables.comparisonsTable.find? (fun e => e.2.2 == c)).isSome = true)
    simp only [hf2]
    exact List.all_eq_true.mp named e1 (List.mem_of_find?_eq_some hf2)
  · intro r hp; exact hp
  · intro r n hp _; exact hp

theorem printFields_isSome (ts : List (Nat × Nat × Nat)) (ss : List Bytes)
    (hok : ∀ t ∈ ts, tripOk t = true) (hal : Aligned ts ss) :
    (printFields (ts.map (·.1)) (ts.map (·.2.1)) (ts.map (·.2.2)) ss).isSome = true := by
  induction ts generalizing ss with
  | nil => rfl
  | cons t ts ih =>
    have hok' : ∀ t' ∈ ts, tripOk t' = true := fun t' ht' => hok t' (List.mem_cons_of_mem _ ht')
    have ht := hok t List.mem_cons_self
    unfold tripOk at ht
    simp only [Bool.and_eq_true] at ht
    obtain ⟨hop, hrest⟩ := ht
    obtain ⟨opS, hr⟩ := Option.isSome_iff_exists.mp hop
    simp only [List.map_cons, printFields, hr]
    simp only [Aligned] at hal
    by_cases ha : (t.1 == LA.Gen.RuleTables.archField) = true
    · rw [if_pos ha]
      rw [eq_of_beq ha, archField_not_string] at hal
      exact ih ss hok' (by simpa using hal)
    · rw [if_neg ha] at hrest ⊢
      by_cases hc : (t.1 == LA.Gen.RuleTables.fieldCompare) = true
      · rw [if_pos hc] at hrest ⊢
        rw [eq_of_beq hc, fieldCompare_not_string] at hal
        cases hf : LA.Gen.RuleTables.comparisonsTable.find? (fun e => e.2.2 == t.2.1) with
        | none => rw [hf] at hrest; cases hrest
        | some e =>
          rw [hf] at hrest
          simp only [Bool.and_eq_true] at hrest
          obtain ⟨an, h1⟩ := Option.isSome_iff_exists.mp hrest.1
          obtain ⟨bn, h2⟩ := Option.isSome_iff_exists.mp hrest.2
          simp only [h1, h2, Option.isSome_map]
          exact ih ss hok' (by simpa using hal)
      · rw [if_neg hc] at hrest ⊢
        obtain ⟨lhs, hl⟩ := Option.isSome_iff_exists.mp hrest
        simp only [hl]
        by_cases hs : stringFields.contains t.1 = true
        · rw [if_pos hs] at hal ⊢
          obtain ⟨s, rest, rfl, _, hrest'⟩ := hal
          simp only [Option.isSome_map]
          exact ih rest hok' hrest'
        · rw [if_neg hs] at hal ⊢
          simp only [Option.isSome_map]
          exact ih ss hok' hal

theorem lastIndexOf_none {l : List Nat} {x : Nat} (h : ∀ y ∈ l, (y == x) = false) : lastIndexOf l x = none := by
  unfold lastIndexOf
  have : (l.zipIdx).filter (fun p => p.1 == x) = [] := by
    rw [List.filter_eq_nil_iff]
    intro p hpm
    simpa using h p.1 (List.mem_of_getElem? (List.mem_zipIdx_iff_getElem?.mp hpm))
  rw [this]; rfl

theorem lastIndexOf_getElem {l : List Nat} {x i : Nat} (h : lastIndexOf l x = some i) : l[i]? = some x := by
  obtain ⟨p, hg, rfl⟩ := Option.map_eq_some_iff.mp h
  have hm := List.mem_filter.mp (List.mem_of_getLast? hg)
  rw [List.mem_zipIdx_iff_getElem?.mp hm.1, eq_of_beq hm.2]

theorem cmdLineOf_isSome (r : RuleData) (hl : (getList r.flags).isSome = true) (ha : (getAction r.action).isSome = true)
    (hok : ∀ t ∈ r.trips, tripOk t = true) (hal : Aligned r.trips r.strings) : (cmdLineOf r).isSome = true := by
  obtain ⟨list, h1⟩ := Option.isSome_iff_exists.mp hl
  obtain ⟨act, h2⟩ := Option.isSome_iff_exists.mp ha
  unfold cmdLineOf
  simp only [h1, h2]
  cases hw : asFileWatch r with
  | some w => obtain ⟨p, q, k⟩ := w; rfl
  | none =>
    have hpf := printFields_isSome r.trips r.strings hok hal
    obtain ⟨fieldArgs, hp⟩ := Option.isSome_iff_exists.mp hpf
    simp only [RuleData.fields, RuleData.values, RuleData.fieldFlags, hp]
    cases hli : lastIndexOf (r.trips.map (·.1)) LA.Gen.RuleTables.archField with
    | none => rfl
    | some i =>
      have hfi := lastIndexOf_getElem hli
      simp only [List.getElem?_map, Option.map_eq_some_iff] at hfi
      obtain ⟨t, hti, htf⟩ := hfi
      have htok := hok t (List.mem_of_getElem? hti)
      unfold tripOk at htok
      simp only [Bool.and_eq_true, htf, beq_self_eq_true, if_true] at htok
      obtain ⟨opS, hr⟩ := Option.isSome_iff_exists.mp htok.1
      obtain ⟨a, hd⟩ := Option.isSome_iff_exists.mp htok.2
      simp only [List.getElem?_map, hti, Option.map_some, hd, hr]
      rfl

end LA.Rule
