/-
C10 — Reassembler buffers at most maxInFlight events and evicts only for cause.
-/
import LA.Proofs.Reasm
import LA.Proofs.ReasmLife
import LA.Gen.ReasmFacts
import LA.Proofs.StateObligations.Root

namespace LA.Reasm

/-- After any PushMessage or Maintain returns, at most maxInFlight events remain buffered. -/
theorem C10_bound (s : St) (op : Op) (hm : 0 ≤ s.maxSize)
    (hop : (∃ m tp tc, op = .push m tp tc) ∨ (∃ t, op = .maintain t ∧ s.closed = false)) :
    ((step s op).1.buf.length : Int) ≤ s.maxSize := by
  -- `now`: the clock reading of the call's clean-up
  obtain ⟨now, hop⟩ : ∃ now, Cleans s op now :=
    hop.elim (fun ⟨m, tp, tc, h⟩ => ⟨tc, .inl ⟨m, tp, h⟩⟩) fun ⟨t, h⟩ => ⟨t, .inr h⟩
  -- the buffer is empty, or its head is not evictable
  cases h : (step s op).1.buf with
  | nil => simpa using hm
  | cons p r =>
    have := (head_not_evictable hop p (by rw [h]; rfl)).2.1
    rw [h] at this
    omega

/-- maxSize never changes, so the bound holds in every state reached through a push. -/
theorem C10_maxSize_const (s : St) (op : Op) : (step s op).1.maxSize = s.maxSize := (step_spec s op).maxSize

/-- After a push (or Maintain), the oldest buffered event is not complete (nor expired, nor
is the buffer over its bound). -/
theorem C10_head_incomplete (s : St) (m : Msg) (tp tc : Int) :
    ∀ p, (step s (.push m tp tc)).1.buf.head? = some p → p.2.complete = false :=
  fun p hp => (head_not_evictable (Or.inl ⟨m, tp, rfl⟩) p hp).1

/-- Outside Close an event is delivered only for cause: when it was evicted it was the head
and it was complete, or more than maxInFlight events were buffered, or its timeout had
elapsed. -/
theorem C10_cause (s : St) (op : Op) (hop : op ≠ .close) :
    ∃ now, Caused now s.maxSize (bufBeforeEvict s op).length (evictedBy s op) := by
  cases op with
  | push m tp tc => exact ⟨tc, step_caused (Or.inl ⟨m, tp, rfl⟩)⟩
  | pushNil => exact ⟨0, trivial⟩
  | maintain t =>
    cases hc : s.closed
    · exact ⟨t, step_caused (Or.inr ⟨rfl, hc⟩)⟩
    · exact ⟨t, by simp [evictedBy, hc, Caused]⟩
  | close => exact absurd rfl hop

/-- **An event is not delivered by the push that creates it, unless for cause.** A record of a non-terminating
type that opens a new event — no event with its sequence number is buffered — while the buffer stays within
maxInFlight, and whose push's clean-up reads the clock no later than timeout after its Put did (a call lasts far less
than any sensible timeout; with the two readings equal, any timeout ≥ 0 qualifies), is still buffered when the push
returns: nothing the call delivers is that event. The deadline of a new event is computed from a clock reading of
*this* push — not from one cached by an earlier call, however long ago that was. -/
theorem C10_new_event_survives_its_push (s : St) (m : Msg) (tp tc : Int)
    (hE : (m.typ == EOE) = false) (hc : completes m.typ = false) (hk : hasKey m.seq s.buf = false)
    (hsize : ((put s m tp).buf.length : Int) ≤ s.maxSize) (htime : tc ≤ tp + s.timeout) :
    (m.seq, ({ expire := tp + s.timeout, msgs := [m], complete := false } : Ev)) ∉ evictedBy s (.push m tp tc) ∧
    (m.seq, ({ expire := tp + s.timeout, msgs := [m], complete := false } : Ev)) ∈ (step s (.push m tp tc)).1.buf := by
  -- the event of the statement is `newEv s m tp`, since `m` does not complete it
  rw [← hc]
  have hput : newEv s m tp ∈ evictedBy s (.push m tp tc) ++ (step s (.push m tp tc)).1.buf := by
    rw [(step_spec ..).buf]
    rcases put_hit s tp (ne_of_beq_false hE) with ⟨_, h⟩ | ⟨e, he, _⟩
    · exact h
    · exact absurd (mem_keys_of_mem he) ((hasKey_false_iff ..).mp hk)
  -- evicted, it would have been evictable with some `n` ≤ the buffer's length events buffered: none of the three causes holds
  have hnot : newEv s m tp ∉ evictedBy s (.push m tp tc) := by
    intro hmem
    obtain ⟨n, hn, he⟩ := (cleanUp_caused tc s.maxSize (put s m tp).buf).of_mem hmem
    simp only [evictable, hc, Bool.false_or, Bool.or_eq_true, decide_eq_true_eq] at he
    omega
  exact ⟨hnot, (List.mem_append.mp hput).resolve_left hnot⟩

/-- non-vacuity: a first record pushed a long time after the previous call (the clock at 10 000, timeout 100) -/
example : (run (init 5 100) [.push ⟨1, 7, 1300⟩ 0 0, .maintain 500, .push ⟨2, 9, 1300⟩ 10000 10000]).2 =
    [[], [.group [⟨1, 7, 1300⟩]], []] := by decide +kernel

/-- Completion only for cause: after `Put`, an event is complete only if it already was, or
the pushed record is a terminating one that joined it, or the pushed record is the EOE of
that (buffered) sequence. -/
theorem C10_complete_only_if (s : St) (m : Msg) (t : Int) :
    ∀ p ∈ (put s m t).buf, p.2.complete = true →
      (∃ p' ∈ s.buf, p'.1 = p.1 ∧ p'.2.complete = true) ∨
      (m.typ = EOE ∧ p.1 = m.seq) ∨
      (completes m.typ = true ∧ m ∈ p.2.msgs) := by
  intro p hp hc
  rcases mem_put hp with hp | ⟨e, _, he, rfl⟩ | ⟨e, he, _, rfl⟩ | ⟨_, _, rfl⟩
  · exact Or.inl ⟨p, hp, rfl, hc⟩
  · exact Or.inr (Or.inl ⟨he, rfl⟩)
  · rcases Bool.or_eq_true_iff.mp hc with hc | hc
    · exact Or.inl ⟨_, he, rfl, hc⟩
    · exact Or.inr (Or.inr ⟨hc, by simp⟩)
  · exact Or.inr (Or.inr ⟨hc, by simp⟩)

/-- … and conversely a terminating record completes its event, and an EOE completes the
buffered event of its sequence. -/
theorem C10_complete_if (s : St) (hs : Inv s) (m : Msg) (t : Int) :
    (m.typ ≠ EOE → completes m.typ = true → ∃ p ∈ (put s m t).buf, p.1 = m.seq ∧ m ∈ p.2.msgs ∧ p.2.complete = true) ∧
    (m.typ = EOE → ∀ p' ∈ s.buf, p'.1 = m.seq → ∃ p ∈ (put s m t).buf, p.1 = m.seq ∧ p.2.complete = true) := by
  constructor
  · intro hne hc
    rcases put_hit s t hne with ⟨_, h⟩ | ⟨e, _, h⟩
    · exact ⟨_, h, rfl, by simp, hc⟩
    · exact ⟨_, h, rfl, by simp, by simp [hc]⟩
  · intro he p' hp' hk
    -- of the three things `put` does, the other two are for records that are not an EOE
    obtain ⟨_, hb⟩ := (put_cases s m t).resolve_right fun h => h.elim (·.1 he) (·.1 he)
    obtain ⟨e, _, h⟩ := modifyKey_hit (fun e => { e with complete := true }) (hk ▸ mem_keys_of_mem hp')
    exact ⟨_, hb ▸ h, rfl, rfl⟩

/-- Completion by record type, for the whole record-type domain. For every one of the 65536 record
types, the life cycle of a lone record in the model (delivered by its own push because the type
terminates an event; or buffered and delivered, alone, by its EOE; or not buffered at all, the EOE
type itself) is the one the running library shows through its public API: `Gen.ReasmFacts.lifeCycle`
is regenerated on every run by pushing each type into a fresh Reassembler. The table is checked
run by run (`runsOk`), not by enumeration. -/
theorem C10_lifecycle_table (t : Nat) (ht : t < 65536) :
    lookupLife LA.Gen.ReasmFacts.lifeCycle t = some (modelLife t) := by
  rw [modelLife_eq]
  exact runsOk_sound _ 0 (by decide +kernel) t (Nat.zero_le _) ht

/-- … and in closed form: terminating types are PROCTITLE, everything up to 1299 and everything
from 2100; only EOE (1320) is never buffered. -/
theorem C10_lifecycle_closed_form (t : Nat) :
    modelLife t = if t = 1320 then 2 else if t = 1327 ∨ t ≤ 1299 ∨ t ≥ 2100 then 0 else 1 := by
  rw [modelLife_eq, specLife_closed_form]

/-- non-vacuity: a state where the bound bites and the head stays incomplete. -/
example : (run (init 2 3600) [.push ⟨1, 5, 1300⟩ 0 0, .push ⟨2, 6, 1300⟩ 0 0, .push ⟨3, 7, 1300⟩ 0 0]).1.buf.length = 2 := by
  decide +kernel

end LA.Reasm

/-! ### the code keeps nothing between calls that the model does not have -/

/-- Outside `init`, no function of the root package writes a package-level variable, hands the address of one to a function or calls a
sync/atomic method on one (regenerated list, see LA.Proofs.StateFacts): all state is in the object the model is given. -/
theorem C10_state_is_in_the_object : LA.StateFacts.ofPkg "" = [] := LA.StateFacts.ofPkg_root

/-- The constructor keeps the `maxInFlight` it is given as the size of the window, for every value of the ladder read
off the running library through reflection (regenerated, see harness/cmd/extract/reasmfacts.go): 0 … 2^20+1, with
the values around 2^16 and 2^17. The model's `new` stores its argument unchanged. -/
theorem C10_window_is_the_one_given : ∀ p ∈ LA.Gen.ReasmFacts.windowStored, p.2 = p.1 := by decide

/-- The third cause, "its timeout had elapsed", is decided on the clock the model assumes: a Reassembler that buffers
one event holds a non-zero `time.Time`, and every such value reachable from it carries a monotonic clock reading (read
off the running library through reflection on every run; see `C19_timeout_on_the_monotonic_clock`). A deadline kept as
a wall-clock number would deliver every buffered event, with none of the three causes, when the system clock is
stepped forward. -/
theorem C10_timeout_on_the_monotonic_clock :
    LA.Gen.ReasmFacts.deadlinesMonotonic ≠ [] ∧ LA.Gen.ReasmFacts.deadlinesMonotonic.all (· == true) = true ∧
    LA.Gen.ReasmFacts.clockStrips = [] := by decide

/-- The deadlines are the only clock readings a Reassembler keeps: the Reassembler the fact above is read from buffers
exactly one event (one push, then a Maintain, so that whatever a clean-up pass might remember about when it ran has
been set), and exactly one non-zero `time.Time` is reachable from it. The model's state has one deadline per buffered
event and nothing else that depends on when something happened; a Reassembler that also remembers when it last
looked — to look less often, to batch, to rate-limit its callbacks — delivers a stale event later than the first call
after its timeout on histories whose calls are spaced just so, which a check finds only if its sleeps happen to
bracket the constant chosen. -/
theorem C10_the_deadlines_are_the_only_clock_state : LA.Gen.ReasmFacts.deadlinesMonotonic.length = 1 := by decide

/-- The model's message is the record as the Reassembler sees it — an identity, a sequence number and a record type —
and that is all the code looks at: in reassembler.go the only fields of `auparse.AuditMessage` selected are `RecordType`
and `Sequence`, and the only function outside the root package that is handed messages is the Stream's
`ReassemblyComplete` (`msgReads`, regenerated with go/types on every run). Grouping, order, completion, eviction and
loss accounting are therefore functions of (sequence, type) histories and of the clock, as in `Model.Reasm`; a
Reassembler that also consults a record's time stamp, text or parsed data — to guess at a restart of the kernel's
counter, to tell two events with one number apart — is outside that reading whatever it uses them for, and the
drivers' histories (which vary time stamps and bodies independently of the sequence numbers) search for the input on
which it shows. -/
theorem C10_reads_only_sequence_and_type :
    LA.Gen.ReasmFacts.msgReads = ["call:ReassemblyComplete", "field:RecordType", "field:Sequence"] := by rfl

/-- What the root package reads of the process it runs in is the clock (the Reassembler's deadlines, which the model is
given as readings), the process id (an input of SetPID) and the page size (the default receive buffer): `envReads`,
regenerated with go/types on every run, lists the package-level functions of os, os/user, os/exec, net, runtime,
math/rand, crypto/rand that are called, time.Now / Since / Until, file-system functions of path/filepath and process
queries of syscall. Nothing else of the machine — processors, environment variables, files, random numbers — can
influence what the Reassembler or the client does. -/
theorem C10_environment_is_clock_pid_pagesize : LA.StateFacts.envOf "" = LA.StateFacts.rootEnv := LA.StateFacts.envOf_root
