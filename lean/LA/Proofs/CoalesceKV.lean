/-
Go maps as association lists.  What `NoDupKeys` buys: a pair is in the list iff `lookup` finds
it, so `lookup` does not see the order of the entries.  At the end what the frame relations of
the later modules share: a preorder that every step of a fold respects relates its ends
(`foldl_rel`), and "only grows", `∃ x, l' = l ++ x` (core's `l <+: l'` with the equation turned
round): warnings, Paths and the heap's arrays.
-/
import LA.Model.Coalesce

namespace LA.Coalesce

theorem lookup_nil (k : Bytes) : lookup k [] = none := rfl

theorem lookup_cons (k : Bytes) (p : Bytes × Bytes) (r : KV) :
    lookup k (p :: r) = if p.1 = k then some p.2 else lookup k r := rfl

theorem lookup_mem {k v : Bytes} {m : KV} (h : lookup k m = some v) : (k, v) ∈ m := by
  induction m with
  | nil => simp [lookup] at h
  | cons p r ih =>
    rw [lookup_cons] at h
    split at h
    · rename_i hk
      cases h
      subst hk
      exact List.mem_cons_self ..
    · exact List.mem_cons_of_mem _ (ih h)

theorem lookup_eq_none_iff {k : Bytes} {m : KV} : lookup k m = none ↔ k ∉ keys m := by
  induction m with
  | nil => simp [lookup, keys]
  | cons p r ih =>
    rw [lookup_cons]
    by_cases hk : p.1 = k
    · simp [hk, keys]
    · simp only [hk, if_false, keys, List.map_cons, List.mem_cons, not_or]
      constructor
      · intro h; exact ⟨fun h' => hk h'.symm, ih.mp h⟩
      · intro h; exact ih.mpr h.2

theorem mem_keys_of_mem {k v : Bytes} {m : KV} (h : (k, v) ∈ m) : k ∈ keys m :=
  List.mem_map.mpr ⟨(k, v), h, rfl⟩

theorem nodupKeys_cons {p : Bytes × Bytes} {r : KV} : NoDupKeys (p :: r) ↔ p.1 ∉ keys r ∧ NoDupKeys r :=
  List.nodup_cons

theorem lookup_of_mem_nodup {k v : Bytes} {m : KV} (hn : NoDupKeys m) (h : (k, v) ∈ m) :
    lookup k m = some v := by
  induction m with
  | nil => cases h
  | cons p r ih =>
    rw [lookup_cons]
    have hn' := nodupKeys_cons.mp hn
    rcases List.mem_cons.mp h with h | h
    · subst h; simp
    · have hne : p.1 ≠ k := fun hk => hn'.1 (hk ▸ mem_keys_of_mem h)
      simp only [hne, if_false]
      exact ih hn'.2 h

theorem keys_perm {d d' : KV} (h : d.Perm d') : (keys d).Perm (keys d') := h.map _

theorem NoDupKeys.perm {d d' : KV} (h : d.Perm d') (hn : NoDupKeys d) : NoDupKeys d' :=
  (keys_perm h).nodup_iff.mp hn

theorem NoDupKeys.map_key {f : Bytes → Bytes} (hf : ∀ a b, f a = f b → a = b) {d : KV} (hn : NoDupKeys d) :
    NoDupKeys (d.map fun kv => (f kv.1, kv.2)) := by
  have : ((keys d).map f).Nodup := List.Pairwise.map f (fun _ _ hne he => hne (hf _ _ he)) hn
  unfold NoDupKeys keys at this ⊢
  rwa [List.map_map] at this ⊢

theorem lookup_perm {d d' : KV} (h : d.Perm d') (hn : NoDupKeys d) (k : Bytes) : lookup k d' = lookup k d := by
  cases hl : lookup k d with
  | some v => exact lookup_of_mem_nodup (hn.perm h) (h.mem_iff.mp (lookup_mem hl))
  | none =>
    rw [lookup_eq_none_iff] at hl ⊢
    intro hk
    exact hl ((keys_perm h).mem_iff.mpr hk)

theorem hasKey_iff {k : Bytes} {m : KV} : hasKey k m = true ↔ ∃ v, lookup k m = some v := by
  unfold hasKey
  cases lookup k m <;> simp

theorem hasKey_false_iff {k : Bytes} {m : KV} : hasKey k m = false ↔ lookup k m = none := by
  unfold hasKey
  cases lookup k m <;> simp

theorem lookup_setKV (k k' v : Bytes) (m : KV) :
    lookup k' (setKV k v m) = if k = k' then some v else lookup k' m := by
  induction m with
  | nil => rfl
  | cons p r ih =>
    unfold setKV
    by_cases hk : k = k'
    · subst hk; split <;> simp_all [lookup]
    · split <;> simp_all [lookup]

theorem lookup_erase (k κ : Bytes) (m : KV) : lookup κ (erase k m) = if κ = k then none else lookup κ m := by
  induction m with
  | nil => simp [erase, lookup]
  | cons p r ih =>
    unfold erase at *
    by_cases hp : p.1 = k <;> by_cases hk : κ = k <;> simp_all [lookup]
    exact fun h => absurd h.symm hk

theorem lookup_erase_self (k : Bytes) (m : KV) : lookup k (erase k m) = none := by
  rw [lookup_erase, if_pos rfl]

theorem lookup_erase_ne {k κ : Bytes} (m : KV) (h : κ ≠ k) : lookup κ (erase k m) = lookup κ m := by
  rw [lookup_erase, if_neg h]

theorem lookup_append (k : Bytes) (m m' : KV) : lookup k (m ++ m') = (lookup k m).or (lookup k m') := by
  induction m with
  | nil => rfl
  | cons p r ih =>
    rw [List.cons_append, lookup_cons, lookup_cons, ih]
    split <;> rfl

theorem getD_of_lookup {k v : Bytes} {m : KV} (h : lookup k m = some v) : getD k m = v := by
  simp [getD, h]

theorem append_drop_of_hasPrefix {p a : Bytes} (h : hasPrefix p a = true) : p ++ a.drop p.length = a := by
  obtain ⟨t, rfl⟩ := List.isPrefixOf_iff_prefix.mp h
  simp

theorem foldl_rel {α β : Type} (R : β → β → Prop) (hr : ∀ b, R b b) (ht : ∀ {a b c}, R a b → R b c → R a c)
    (f : β → α → β) (hf : ∀ b x, R b (f b x)) (l : List α) (b : β) : R b (l.foldl f b) :=
  List.foldlRecOn l f (hr b) fun c hc x _ => ht hc (hf c x)

theorem getD_of_forall_mem {α : Type} {P : α → Prop} {l : List α} (hl : ∀ x ∈ l, P x) {d : α} (hd : P d) (i : Nat) :
    P ((l[i]?).getD d) := by
  cases hx : l[i]? with
  | none => exact hd
  | some x => exact hl x (List.mem_of_getElem? hx)

theorem extends_iff_prefix {α : Type} {l l' : List α} : (∃ x, l' = l ++ x) ↔ l <+: l' :=
  exists_congr fun _ => eq_comm

theorem extends_trans {α : Type} {l1 l2 l3 : List α} (h1 : ∃ x, l2 = l1 ++ x) (h2 : ∃ x, l3 = l2 ++ x) :
    ∃ x, l3 = l1 ++ x :=
  extends_iff_prefix.mpr ((extends_iff_prefix.mp h1).trans (extends_iff_prefix.mp h2))

theorem mem_of_extends {α : Type} {l l' : List α} (h : ∃ extra, l' = l ++ extra) : ∀ x ∈ l, x ∈ l' :=
  fun _ hx => (extends_iff_prefix.mp h).subset hx

end LA.Coalesce
