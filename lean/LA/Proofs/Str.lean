/-
Lemmas about Base/Str. strconv.ParseInt on text without a sign; strings.TrimSpace never eats into text that is
delimited by non-space ASCII bytes (what follows such a byte may go, what lies between two of them stays); strings.Split
on text joined with a separator its items lack; strings.Index past a prefix that lacks the first byte sought. (`parseInt`
is the `Option`-valued strconv.ParseInt of the parser; the rule encoder, which must tell a syntax error from a range
error, has `parseIntGo` of Base/Num.)
-/
import LA.Base.Str

namespace LA

theorem splitSign_of_ne {d : Nat} {tl : Bytes} (h43 : d ≠ 43) (h45 : d ≠ 45) : splitSign (d :: tl) = (false, d :: tl) := by
  unfold splitSign
  split
  next r h => exact absurd (List.cons.inj h).1 h43
  next r h => exact absurd (List.cons.inj h).1 h45
  next => rfl

theorem parseInt_unsigned {base bits d v : Nat} {tl : Bytes} (h43 : d ≠ 43) (h45 : d ≠ 45)
    (hm : (if base == 16 then parseHexDigits (d :: tl) 0 else parseDigits (d :: tl) 0) = some v)
    (hv : v < 2 ^ (bits - 1)) : parseInt base bits (d :: tl) = some (v : Int) := by
  simp only [parseInt, splitSign_of_ne h43 h45, List.isEmpty_cons, Bool.false_eq_true, if_false, hm, hv, if_true]

theorem parseInt_digits {s : Bytes} {bits v : Nat} (hne : s ≠ []) (hd : ∀ b ∈ s, isDigit b = true)
    (hp : parseDigits s 0 = some v) (hv : v < 2 ^ (bits - 1)) : parseInt 10 bits s = some (v : Int) := by
  cases s with
  | nil => exact absurd rfl hne
  | cons d tl =>
    have hd' := hd d List.mem_cons_self
    simp only [isDigit, Bool.and_eq_true, decide_eq_true_eq] at hd'
    exact parseInt_unsigned (by omega) (by omega) hp hv

theorem decInt_natCast (n : Nat) : decInt (n : Int) = dec n := by simp [decInt]

theorem trailingSpaceLenRev_take (l : Bytes) :
    ∀ x ∈ l.take (trailingSpaceLenRev l), isAsciiSpace x = true ∨ x ≥ 128 := by
  fun_cases trailingSpaceLenRev l with
  | case1 b rest hs => simp [hs]                    -- an ASCII white-space byte
  | case2 | case3 | case4 | case7 | case8 => simp   -- U+0085, U+00A0, U+1680, U+205F, U+3000: the bytes of the pattern, all ≥ 128
  | case5 c tail hc =>                              -- U+2000 … U+202F: the guard says that the last byte `c` is ≥ 128 too
    simp only [Bool.or_eq_true, decide_eq_true_eq, beq_iff_eq] at hc
    intro x hx
    simp only [List.take_succ_cons, List.take_zero, List.mem_cons, List.mem_nil_iff, or_false] at hx
    omega
  | case6 | case9 | case10 => nofun                 -- no rune, nothing taken

/-- The text is held reversed: `Q` is what stands before the byte `z`, `r` what follows it. Trimming on the right eats into
`r` only: the bytes of a white-space rune are ASCII white space or ≥ 128 (`trailingSpaceLenRev_take`), and `z` is neither,
so no rune reaches it. -/
theorem trimRightSpaceRevAux_keeps (f : Nat) (r Q : Bytes) (z : Nat) (hz : z < 128) (hz' : isAsciiSpace z = false) :
    ∃ r', trimRightSpaceRevAux f (r ++ z :: Q) = r' ++ z :: Q ∧ r'.length ≤ r.length := by
  induction f generalizing r with
  | zero => exact ⟨r, rfl, Nat.le_refl _⟩
  | succ f ih =>
    unfold trimRightSpaceRevAux
    cases hn : trailingSpaceLenRev (r ++ z :: Q) with
    | zero => exact ⟨r, rfl, Nat.le_refl _⟩
    | succ n =>
      -- the rune ends before `z`
      have hle : n + 1 ≤ r.length := by
        refine Nat.le_of_not_lt fun hlt => ?_
        have hm : z ∈ (r ++ z :: Q).take (n + 1) :=
          List.mem_take_iff_getElem.mpr ⟨r.length, by simp; omega, by simp⟩
        rcases trailingSpaceLenRev_take _ z (hn ▸ hm) with h | h
        · rw [hz'] at h; cases h
        · omega
      obtain ⟨r', h, hl⟩ := ih (r.drop (n + 1))
      exact ⟨r', by simpa [List.drop_append_of_le_length hle] using h, by simp at hl; omega⟩

theorem leadingSpaceLen_ascii (x : Nat) (r : Bytes) (hx : x < 128) (hx' : isAsciiSpace x = false) :
    leadingSpaceLen (x :: r) = 0 := by
  unfold leadingSpaceLen
  simp only [hx', Bool.false_eq_true, if_false]
  -- every arm but the last asks for a lead byte ≥ 194
  split
  · omega
  · omega
  · omega
  · omega
  · omega
  · rfl

theorem trimLeftSpace_ascii (x : Nat) (r : Bytes) (hx : x < 128) (hx' : isAsciiSpace x = false) :
    trimLeftSpace (x :: r) = x :: r := by
  simp [trimLeftSpace, trimLeftSpaceAux, leadingSpaceLen_ascii x _ hx hx']

theorem trimRightSpace_keeps (p : Bytes) (z : Nat) (t : Bytes) (hz : z < 128) (hz' : isAsciiSpace z = false) :
    ∃ t', trimRightSpace (p ++ z :: t) = p ++ z :: t' ∧ t'.length ≤ t.length := by
  obtain ⟨r', hr', hlen⟩ := trimRightSpaceRevAux_keeps (p ++ z :: t).length t.reverse p.reverse z hz hz'
  refine ⟨r'.reverse, ?_, by simpa using hlen⟩
  rw [trimRightSpace, List.reverse_append, List.reverse_cons, List.append_assoc, List.singleton_append, hr']
  simp

/-- TrimSpace leaves text from a non-space ASCII byte `a` to another, `z`, standing, whatever lies between them; of what
follows `z` it may take some off. With `a … z` = `audit(…)` this is why a record's header survives the trimming in Parse. -/
theorem trimSpace_keeps_prefix (a : Nat) (mid : Bytes) (z : Nat) (t : Bytes) (ha : a < 128) (ha' : isAsciiSpace a = false)
    (hz : z < 128) (hz' : isAsciiSpace z = false) :
    ∃ t', trimSpace (a :: (mid ++ z :: t)) = a :: (mid ++ z :: t') ∧ t'.length ≤ t.length := by
  rw [trimSpace, trimLeftSpace_ascii a _ ha ha']
  exact trimRightSpace_keeps (a :: mid) z t hz hz'

theorem trimSpace_of_all (s : Bytes) (h : ∀ b ∈ s, b < 128 ∧ isAsciiSpace b = false) : trimSpace s = s := by
  cases s with
  | nil => rfl
  | cons x rest =>
    have hx := h x List.mem_cons_self
    rw [trimSpace, trimLeftSpace_ascii x rest hx.1 hx.2, ← List.dropLast_concat_getLast (List.cons_ne_nil x rest)]
    have hz := h _ (List.getLast_mem (List.cons_ne_nil x rest))
    obtain ⟨t', ht, hl⟩ := trimRightSpace_keeps (x :: rest).dropLast _ [] hz.1 hz.2
    rw [ht, List.eq_nil_of_length_eq_zero (Nat.le_zero.mp hl)]

theorem splitByte_append (sep : Nat) (a t cur : Bytes) (rest : List Bytes) (ha : sep ∉ a) (ht : splitByte sep t = cur :: rest) :
    splitByte sep (a ++ t) = (a ++ cur) :: rest := by
  induction a with
  | nil => exact ht
  | cons b bs ih =>
    have hb : (b == sep) = false := beq_false_of_ne (fun e => ha (by simp [e]))
    simp only [List.cons_append, splitByte, ih (fun hh => ha (by simp [hh])), hb, Bool.false_eq_true, if_false]

theorem splitByte_join (sep : Nat) (items : List Bytes) (hne : items ≠ []) (h : ∀ it ∈ items, sep ∉ it) :
    splitByte sep (joinWith [sep] items) = items := by
  induction items with
  | nil => exact absurd rfl hne
  | cons a rest ih =>
    cases rest with
    | nil => simpa [joinWith] using splitByte_append sep a [] [] [] (h a (by simp)) rfl
    | cons b rest2 =>
      have ht : splitByte sep (sep :: joinWith [sep] (b :: rest2)) = [] :: b :: rest2 := by
        simp only [splitByte, ih (by simp) (fun it hit => h it (by simp [hit])), beq_self_eq_true, if_true]
      simpa [joinWith] using splitByte_append sep a _ _ _ (h a (by simp)) ht

theorem indexOfSub_append {c : Nat} {t a : Bytes} (b : Bytes) (h : c ∉ a) :
    indexOfSub (c :: t) (a ++ (c :: t) ++ b) = some a.length := by
  induction a with
  | nil => simp [indexOfSub, hasPrefix]
  | cons x a ih =>
    obtain ⟨hx, ha⟩ := not_or.mp (mt List.mem_cons.mpr h)
    rw [List.cons_append, List.cons_append, indexOfSub, hasPrefix, List.isPrefixOf, beq_false_of_ne hx, Bool.false_and,
      if_neg Bool.false_ne_true, ih ha, Option.map_some, List.length_cons]

theorem indexOfSub_bound {sub s : Bytes} {i : Nat} (h : indexOfSub sub s = some i) :
    i + sub.length ≤ s.length := by
  fun_induction indexOfSub sub s generalizing i with
  | case1 he =>
    cases h
    rw [List.isEmpty_iff.mp he]
    exact Nat.le_refl _
  | case2 => cases h
  | case3 b bs hp =>
    cases h
    rw [Nat.zero_add]
    exact (List.isPrefixOf_iff_prefix.mp hp).length_le
  | case4 b bs hp ih =>
    obtain ⟨j, hj, rfl⟩ := Option.map_eq_some_iff.mp h
    have := ih hj
    rw [List.length_cons]
    omega

theorem splitByte_ne_nil (sep : Nat) (l : Bytes) : splitByte sep l ≠ [] := by
  cases l with
  | nil => nofun
  | cons x xs =>
    rw [splitByte]
    split
    · nofun
    · split <;> nofun

end LA
