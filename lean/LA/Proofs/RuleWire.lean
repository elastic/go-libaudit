/-
The library's own decoder against its encoder. fromWireFormat reads what the independent layout decoder reads
(`fromWire_eq`); the strings of a built rule sit at its string-valued triples (`Aligned`, read off `Built`), so the field
loop of fromAuditRuleData cuts the buffer back into them (`decodeFields_ok`); the mask read back lists the syscalls asked
for, in increasing order (`syscallsOfMask_maskOf`).
-/
import LA.Proofs.Rule
import LA.Proofs.RuleBuild
import LA.Proofs.Auparse

namespace LA.Rule
open LA
open LA.Auparse (Res slice slice_eq_ok slice_add_ok)

@[simp] theorem res_bind_ok {α β : Type} (a : α) (f : α → Res β) : (Res.ok a >>= f) = f a := rfl

theorem rd32_of_word {b : Bytes} {off w : Nat} (h : LA.Spec.RuleLayout.word b off = some w) : rd32 b off = Res.ok w := by
  have hle := word_le h
  unfold LA.Spec.RuleLayout.word at h
  split at h
  · rename_i a c d e rest hd
    cases h
    rw [rd32, show ((off : Int) + 4) = (off : Int) + ((4 : Nat) : Int) from rfl, slice_add_ok hle, hd]
    simp only [List.take_succ_cons, List.take_zero, Res.ok.injEq]
    omega
  · cases h

theorem rdWords_of_words {b : Bytes} {off n : Nat} {l : List Nat} (h : LA.Spec.RuleLayout.words b off n = some l) :
    rdWords b off n = Res.ok l := by
  induction n generalizing off l with
  | zero => cases h; rfl
  | succ n ih =>
    simp only [LA.Spec.RuleLayout.words] at h
    split at h
    · rename_i w ws hw hr
      cases h
      simp only [rdWords, rd32_of_word hw, ih hr, bind, Bind.bind]
    · cases h

/-- the one test left is buflen against the length of the rest, which Go takes mod 2^32. -/
theorem fromWire_eq {b : Bytes} {f a c bl : Nat} {m fs vs ffs : List Nat}
    (h0 : LA.Spec.RuleLayout.word b 0 = some f) (h4 : LA.Spec.RuleLayout.word b 4 = some a)
    (h8 : LA.Spec.RuleLayout.word b 8 = some c) (hm : LA.Spec.RuleLayout.words b 12 64 = some m)
    (hfs : LA.Spec.RuleLayout.words b 268 64 = some fs) (hvs : LA.Spec.RuleLayout.words b 524 64 = some vs)
    (hffs : LA.Spec.RuleLayout.words b 780 64 = some ffs) (hbl : LA.Spec.RuleLayout.word b 1036 = some bl) :
    fromWire b = if (b.length - 1040) % 4294967296 < bl then Res.err "err" else
      Res.ok { flags := f, action := a, fieldCount := c, mask := m, fields := fs, values := vs, fieldFlags := ffs,
               bufLen := bl, buf := (b.drop 1040).take bl } := by
  have hle := word_le hbl
  have hs : headerSize = 1040 := rfl
  unfold fromWire
  rw [hs, if_neg (by omega)]
  simp only [rd32_of_word h0, rd32_of_word h4, rd32_of_word h8, rdWords_of_words hm, rdWords_of_words hfs,
    rdWords_of_words hvs, rdWords_of_words hffs, rd32_of_word hbl, bind, Bind.bind]
  split
  · rfl
  · have := Nat.mod_le (b.length - 1040) 4294967296
    rw [slice_add_ok (by omega)]

theorem fromWire_of_decode {b : Bytes} {v : LA.Spec.RuleLayout.View} (h : LA.Spec.RuleLayout.decode b = some v)
    (hlen : b.length < 4294967296) :
    fromWire b = Res.ok { flags := v.flags, action := v.action, fieldCount := v.fieldCount, mask := v.mask,
                          fields := v.fields, values := v.values, fieldFlags := v.fieldFlags, bufLen := v.bufLen, buf := v.buf } := by
  unfold LA.Spec.RuleLayout.decode at h
  split at h
  · rename_i f a c m fs vs ffs bl h0 h4 h8 hm hfs hvs hffs hbl
    have hsz : LA.Spec.RuleLayout.headerSize = 1040 := rfl
    obtain ⟨htot, h⟩ := Option.ite_none_right_eq_some.mp h
    cases h
    rw [fromWire_eq h0 h4 h8 hm hfs hvs hffs hbl, if_neg (by rw [Nat.mod_eq_of_lt (by omega)]; omega)]
    rfl
  · cases h

/-- the strings of a rule are exactly the values of its string-valued fields, in order, and the
value word of such a field is the string's length. -/
def Aligned : List (Nat × Nat × Nat) → List Bytes → Prop
  | [], ss => ss = []
  | t :: ts, ss =>
    if stringFields.contains t.1 then ∃ s rest, ss = s :: rest ∧ t.2.1 = s.length ∧ Aligned ts rest
    else Aligned ts ss

theorem Built.aligned {env : Env} {fl : Nat} {ts : List (Nat × Nat × Nat)} {ss : List Bytes} (h : Built env fl ts ss) :
    Aligned ts ss := by
  induction h with
  | nil => rfl
  | str h1 h2 _ _ ih => simp only [Aligned, h1, if_true]; exact ⟨_, _, rfl, h2, ih⟩
  | num h1 _ _ _ ih => simp only [Aligned, h1, Bool.false_eq_true, if_false]; exact ih
  | cmp h1 _ _ _ ih => simp only [Aligned, h1, fieldCompare_not_string, Bool.false_eq_true, if_false]; exact ih

theorem aligned_ruleDataOf {env : Env} {rule : Rule} {r : RuleData} (h : ruleDataOf env rule = some r) :
    Aligned r.trips r.strings := (built_ruleDataOf h).aligned

theorem aligned_no_strings {ts : List (Nat × Nat × Nat)} {ss : List Bytes} (h : Aligned ts ss)
    (hn : ∀ t ∈ ts, stringFields.contains t.1 = false) : ss = [] := by
  induction ts with
  | nil => simpa [Aligned] using h
  | cons t ts ih =>
    simp only [Aligned, hn t List.mem_cons_self, Bool.false_eq_true, if_false] at h
    exact ih h (fun x hx => hn x (List.mem_cons_of_mem _ hx))

theorem decodeFields_succ {a : Ard} {i f op v : Nat} (hf : a.fields[i]? = some f) (hop : a.fieldFlags[i]? = some op)
    (hv : a.values[i]? = some v) (n offset : Nat) :
    decodeFields a (n + 1) i offset =
      if stringFields.contains f then
        if v > a.bufLen - offset then Res.err "err" else
          slice a.buf offset (offset + v) >>= fun s => decodeFields a n (i + 1) (offset + v) >>= fun r =>
          Res.ok (f :: r.1, v :: r.2.1, op :: r.2.2.1, s :: r.2.2.2)
      else decodeFields a n (i + 1) offset >>= fun r => Res.ok (f :: r.1, v :: r.2.1, op :: r.2.2.1, r.2.2.2) := by
  rw [decodeFields]
  simp only [getAt, hf, hop, hv]
  rfl

theorem drop_cons_step {α : Type} {l xs : List α} {i : Nat} {x : α} (h : l.drop i = x :: xs) :
    l[i]? = some x ∧ l.drop (i + 1) = xs :=
  ⟨by rw [← List.head?_drop, h]; rfl, by rw [← List.tail_drop, h]; rfl⟩

theorem decodeFields_ok (a : Ard) (ts : List (Nat × Nat × Nat)) (ss : List Bytes) (i : Nat) (pre : Bytes)
    (hf : ∃ tl, a.fields.drop i = ts.map (·.1) ++ tl) (hv : ∃ tl, a.values.drop i = ts.map (·.2.1) ++ tl)
    (ho : ∃ tl, a.fieldFlags.drop i = ts.map (·.2.2) ++ tl)
    (hal : Aligned ts ss) (hbuf : a.buf = pre ++ ss.flatten) (hbl : a.bufLen = a.buf.length) :
    decodeFields a ts.length i pre.length = Res.ok (ts.map (·.1), ts.map (·.2.1), ts.map (·.2.2), ss) := by
  induction ts generalizing ss i pre with
  | nil => cases hal; rfl
  | cons t ts ih =>
    obtain ⟨tf, hf⟩ := hf
    obtain ⟨tv, hv⟩ := hv
    obtain ⟨to, ho⟩ := ho
    obtain ⟨f0, hf'⟩ := drop_cons_step (x := t.1) hf
    obtain ⟨v0, hv'⟩ := drop_cons_step (x := t.2.1) hv
    obtain ⟨o0, ho'⟩ := drop_cons_step (x := t.2.2) ho
    rw [List.length_cons, decodeFields_succ f0 o0 v0]
    simp only [Aligned] at hal
    by_cases hs : stringFields.contains t.1 = true
    · rw [if_pos hs] at hal ⊢
      obtain ⟨s, rest, rfl, hlen, hrest⟩ := hal
      have hb2 : a.buf = (pre ++ s) ++ rest.flatten := by rw [hbuf]; simp
      have := ih rest (i + 1) (pre ++ s) ⟨_, hf'⟩ ⟨_, hv'⟩ ⟨_, ho'⟩ hrest hb2
      rw [List.length_append] at this
      rw [hlen, if_neg (by rw [hbl, hbuf]; simp), slice_eq_ok hb2 rfl rfl, this]
      simp only [res_bind_ok, List.map_cons, hlen]
    · rw [if_neg hs] at hal ⊢
      rw [ih ss (i + 1) pre ⟨_, hf'⟩ ⟨_, hv'⟩ ⟨_, ho'⟩ hal hbuf]
      rfl

theorem zip_map3 {α β γ : Type} (ts : List (α × β × γ)) :
    List.zip (ts.map (·.1)) (List.zip (ts.map (·.2.1)) (ts.map (·.2.2))) = ts := by
  rw [List.zip_map', List.zip_map']; exact List.map_id' ts

theorem filterMap_ite_eq {α β : Type} (l : List α) (c : α → Bool) (f : α → β) (p : β → Bool) (h : ∀ b ∈ l, c b = p (f b)) :
    l.filterMap (fun b => if c b then some (f b) else none) = (l.map f).filter p := by
  induction l with
  | nil => rfl
  | cons b l ih =>
    obtain ⟨hb, hl⟩ := List.forall_mem_cons.mp h
    rw [List.filterMap_cons, List.map_cons, List.filter_cons, hb, ih hl]
    cases p (f b) <;> rfl

theorem mem_syscallsOfMask (mask : List Nat) (n : Nat) :
    n ∈ syscallsOfMask mask ↔ ∃ w, mask[n / 32]? = some w ∧ w.testBit (n % 32) = true := by
  simp only [syscallsOfMask, List.mem_flatMap, List.mem_filterMap, List.mem_range, Option.ite_none_right_eq_some,
    Option.some.injEq, beq_iff_eq, Prod.exists, List.mem_zipIdx_iff_getElem?, Nat.testBit_eq_decide_div_mod_eq,
    decide_eq_true_eq]
  constructor
  · rintro ⟨w, i, hw, bit, hbit, hb, rfl⟩
    rw [show (i * 32 + bit) / 32 = i by omega, show (i * 32 + bit) % 32 = bit by omega]
    exact ⟨w, hw, hb⟩
  · rintro ⟨w, hw, hb⟩
    exact ⟨w, n / 32, hw, n % 32, Nat.mod_lt _ (by decide), hb, by omega⟩

/-- a mask whose words have the bits `p` reads back as the numbers with `p`, in increasing order. -/
theorem syscallsOfMask_map_range (g : Nat → Nat) (p : Nat → Bool)
    (h : ∀ w bit, bit < 32 → (g w / 2 ^ bit % 2 == 1) = p (w * 32 + bit)) (n : Nat) :
    syscallsOfMask ((List.range n).map g) = (List.range (n * 32)).filter p := by
  unfold syscallsOfMask
  induction n with
  | zero => rfl
  | succ n ih =>
    -- word `n` contributes the numbers from 32·n on
    rw [List.range_succ (n := n), List.map_append, List.zipIdx_append, List.flatMap_append, ih, Nat.succ_mul, List.range_add,
      List.filter_append, List.map_singleton, List.zipIdx_singleton, List.flatMap_singleton, List.length_map, List.length_range,
      Nat.zero_add]
    exact congrArg _ (filterMap_ite_eq _ _ _ p fun bit hb => h n bit (List.mem_range.mp hb))

theorem syscallsOfMask_maskOf {r : RuleData} (hall : r.allSyscalls = false) :
    syscallsOfMask (maskOf r) = (List.range 2048).filter (r.syscalls.contains ·) := by
  rw [maskOf, if_neg (by rw [hall]; nofun)]
  refine syscallsOfMask_map_range _ _ (fun w bit hb => ?_) 64
  have := testBit_bitSum (fun bit => r.syscalls.contains (w * 32 + bit)) 32 bit
  rw [← maskWord_eq, Nat.testBit_eq_decide_div_mod_eq, decide_eq_true hb, Bool.true_and] at this
  rw [← this]
  rfl

/-- what toAuditRuleData makes of a rule, and so the record fromWire reads from the rule's bytes. (`Ard` is Go's
`auditRuleData`: the words of the wire header, the three arrays at their full 64 slots, and the string buffer.) -/
def ardOf (r : RuleData) : Ard :=
  { flags := r.flags, action := r.action, fieldCount := r.fields.length, mask := maskOf r,
    fields := padTo 64 r.fields, values := padTo 64 r.values, fieldFlags := padTo 64 r.fieldFlags,
    bufLen := r.strings.flatten.length, buf := r.strings.flatten }

/-- what fromAuditRuleData reads back from the record of a built rule: list, action, triples and strings as they were; the
syscalls in increasing order and without repetition, or "all" once the first 63 words of the mask are full, which a list of
syscalls can bring about as well (KF-C07-all-syscalls-listed). -/
def readBack (r : RuleData) : RuleData :=
  { flags := r.flags, action := r.action, allSyscalls := ((maskOf r).take 63).all (· == 0xFFFFFFFF),
    syscalls := if ((maskOf r).take 63).all (· == 0xFFFFFFFF) then [] else (List.range 2048).filter (r.syscalls.contains ·),
    trips := r.trips, strings := r.strings }

theorem fromArd_ardOf {r : RuleData} (hal : Aligned r.trips r.strings) (hcnt : r.trips.length ≤ 64) :
    fromArd (ardOf r) = Res.ok (readBack r) := by
  have hdf := decodeFields_ok (ardOf r) r.trips r.strings 0 [] ⟨_, rfl⟩ ⟨_, rfl⟩ ⟨_, rfl⟩ hal rfl rfl
  have hfl : r.fields.length = r.trips.length := by simp [RuleData.fields]
  have hnot : ¬ r.fields.length > LA.Gen.RuleTables.maxFields := by rw [maxFields_eq]; omega
  rw [List.length_nil, ← hfl] at hdf
  unfold fromArd readBack
  simp only [ardOf, hnot, if_false, bind, Bind.bind] at hdf ⊢
  simp only [hdf, zip_map3]
  cases hall : r.allSyscalls with
  | true => simp only [maskOf_all_full hall, if_true]   -- the list is not looked at
  | false => rw [syscallsOfMask_maskOf hall]; rfl

end LA.Rule
