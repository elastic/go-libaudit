/-
The ways `assemble`, `setObject`, `applyNorm` and `coalesce` can end, each stated once; every
later case analysis of the pipeline goes through these.  The one panic, `event.Paths[pathIndex]`
out of range (`coalesce_panic`), needs a negative path index (`selectPath_ne_none`).
-/
import LA.Proofs.CoalesceKV

namespace LA.Coalesce

theorem assemble_cases (T : Tables) (msgs : List View) :
    (filterEOE msgs = [] ∧ assemble T msgs = .err .empty) ∨
    (∃ m, filterEOE msgs = [m] ∧ assemble T msgs = .ok (newEvent T m m)) ∨
    (∃ first second rest, filterEOE msgs = first :: second :: rest ∧
      ((∀ m ∈ first :: second :: rest, m.typ ≠ SYSCALL) ∧ assemble T msgs = .err .noSyscall ∨
       ∃ s, (first :: second :: rest).find? (fun v => decide (v.typ = SYSCALL)) = some s ∧
         assemble T msgs = .ok ((first :: second :: rest).foldl step (newEvent T first s)))) := by
  unfold assemble
  cases filterEOE msgs with
  | nil => exact Or.inl ⟨rfl, rfl⟩
  | cons first rest =>
    cases rest with
    | nil => exact Or.inr (Or.inl ⟨first, rfl, rfl⟩)
    | cons second rest =>
      refine Or.inr (Or.inr ⟨first, second, rest, rfl, ?_⟩)
      dsimp only
      cases hs : (first :: second :: rest).find? (fun v => decide (v.typ = SYSCALL)) with
      | none => exact Or.inl ⟨fun m hm => by simpa using List.find?_eq_none.mp hs m hm, rfl⟩
      | some s => exact Or.inr ⟨s, rfl, rfl⟩

theorem setObject_cases (n : Norm) (e : Event) :
    setObject n e = .ok e ∨ setObject n e = .ok (setSocketObject e) ∨
    ((n.objectWhat = vFile ∨ n.objectWhat = vFilesystem) ∧ e.paths ≠ [] ∧
      ((∃ p, selectPath e.paths n.objectPathIndex = some p ∧ setObject n e = .ok (fileFromPath e p)) ∨
       (selectPath e.paths n.objectPathIndex = none ∧ setObject n e = .panic))) := by
  unfold setObject
  by_cases hw : n.objectWhat = vFile ∨ n.objectWhat = vFilesystem
  · rw [if_pos hw]
    by_cases hp : e.paths = []
    · exact Or.inl (if_pos hp)
    · rw [if_neg hp]
      refine Or.inr (Or.inr ⟨hw, hp, ?_⟩)
      cases selectPath e.paths n.objectPathIndex with
      | none => exact Or.inr ⟨rfl, rfl⟩
      | some p => exact Or.inl ⟨p, rfl, rfl⟩
  · rw [if_neg hw]
    by_cases hs : n.objectWhat = vSocket
    · exact Or.inr (Or.inl (if_pos hs))
    · exact Or.inl (if_neg hs)

theorem setObject_file {n : Norm} {e : Event} (hw : n.objectWhat = vFile ∨ n.objectWhat = vFilesystem)
    (hp : e.paths ≠ []) : setObject n e =
      match selectPath e.paths n.objectPathIndex with
      | none => .panic
      | some p => .ok (fileFromPath e p) := by
  rw [setObject, if_pos hw, if_neg hp]
  cases selectPath e.paths n.objectPathIndex <;> rfl

theorem applyNorm_cases (T : Tables) (e : Event) :
    (selectNorm T (setHowDefaults e) = none ∧ applyNorm T e = .ok (warn (setHowDefaults e) .noNorm)) ∨
    ∃ ni, selectNorm T (setHowDefaults e) = some ni ∧
      ((∃ e2, setObject (normAt T ni) (setEcs T ni (syscallNormOf T (setHowDefaults e)) (setHowDefaults e)) = .ok e2 ∧
          applyNorm T e = .ok (applyTail (normAt T ni) e2)) ∨
       (setObject (normAt T ni) (setEcs T ni (syscallNormOf T (setHowDefaults e)) (setHowDefaults e)) = .panic ∧
          applyNorm T e = .panic)) := by
  unfold applyNorm
  dsimp only
  cases selectNorm T (setHowDefaults e) with
  | none => exact Or.inl ⟨rfl, rfl⟩
  | some ni =>
    refine Or.inr ⟨ni, rfl, ?_⟩
    dsimp only
    rcases setObject_cases (normAt T ni) (setEcs T ni (syscallNormOf T (setHowDefaults e)) (setHowDefaults e))
      with h | h | ⟨_, _, ⟨p, _, h⟩ | ⟨_, h⟩⟩ <;> rw [h]
    · exact Or.inl ⟨_, rfl, rfl⟩
    · exact Or.inl ⟨_, rfl, rfl⟩
    · exact Or.inl ⟨_, rfl, rfl⟩
    · exact Or.inr ⟨rfl, rfl⟩

theorem applyNorm_ok_cases {T : Tables} {e e' : Event} (h : applyNorm T e = .ok e') :
    (selectNorm T (setHowDefaults e) = none ∧ e' = warn (setHowDefaults e) .noNorm) ∨
    ∃ ni e2, selectNorm T (setHowDefaults e) = some ni ∧
      setObject (normAt T ni) (setEcs T ni (syscallNormOf T (setHowDefaults e)) (setHowDefaults e)) = .ok e2 ∧
      e' = applyTail (normAt T ni) e2 := by
  rcases applyNorm_cases T e with ⟨hsel, h'⟩ | ⟨ni, hsel, ⟨e2, h2, h'⟩ | ⟨_, h'⟩⟩ <;> cases h'.symm.trans h
  · exact Or.inl ⟨hsel, rfl⟩
  · exact Or.inr ⟨ni, e2, hsel, h2, rfl⟩

theorem coalesce_cases (T : Tables) (msgs : List View) :
    (∃ x, assemble T msgs = .err x ∧ coalesce T msgs = .err x) ∨
    (∃ e0 e1, assemble T msgs = .ok e0 ∧ applyNorm T e0 = .ok e1 ∧ coalesce T msgs = .ok (addProcess e1)) ∨
    (∃ e0, assemble T msgs = .ok e0 ∧ applyNorm T e0 = .panic ∧ coalesce T msgs = .panic) := by
  unfold coalesce
  cases h0 : assemble T msgs with
  | err x => exact Or.inl ⟨x, rfl, rfl⟩
  | panic =>
    rcases assemble_cases T msgs with ⟨_, h⟩ | ⟨m, _, h⟩ | ⟨_, _, _, _, ⟨_, h⟩ | ⟨s, _, h⟩⟩ <;>
      rw [h] at h0 <;> cases h0
  | ok e0 =>
    dsimp only
    rcases applyNorm_cases T e0 with ⟨_, h⟩ | ⟨ni, _, ⟨e2, _, h⟩ | ⟨_, h⟩⟩ <;> rw [h]
    · exact Or.inr (Or.inl ⟨e0, _, rfl, h, rfl⟩)
    · exact Or.inr (Or.inl ⟨e0, _, rfl, h, rfl⟩)
    · exact Or.inr (Or.inr ⟨e0, rfl, h, rfl⟩)

theorem assemble_ok_cases {T : Tables} {msgs : List View} {e0 : Event} (h : assemble T msgs = .ok e0) :
    (∃ m, filterEOE msgs = [m] ∧ e0 = newEvent T m m) ∨
    (∃ first second rest s, filterEOE msgs = first :: second :: rest ∧
      (first :: second :: rest).find? (fun v => decide (v.typ = SYSCALL)) = some s ∧
      e0 = (first :: second :: rest).foldl step (newEvent T first s)) := by
  rcases assemble_cases T msgs with ⟨_, h'⟩ | ⟨m, hm, h'⟩ | ⟨f, g, r, hm, ⟨_, h'⟩ | ⟨s, hs, h'⟩⟩ <;>
    rw [h'] at h <;> cases h
  · exact Or.inl ⟨m, hm, rfl⟩
  · exact Or.inr ⟨f, g, r, s, hm, hs, rfl⟩

theorem coalesce_ok_split {T : Tables} {msgs : List View} {e : Event} (h : coalesce T msgs = .ok e) :
    ∃ e0 e1, assemble T msgs = .ok e0 ∧ applyNorm T e0 = .ok e1 ∧ e = addProcess e1 := by
  rcases coalesce_cases T msgs with ⟨_, _, h'⟩ | ⟨e0, e1, h0, h1, h'⟩ | ⟨_, _, _, h'⟩ <;> rw [h'] at h <;> cases h
  exact ⟨e0, e1, h0, h1, rfl⟩

theorem coalesce_err_iff {T : Tables} {msgs : List View} {x : CErr} :
    coalesce T msgs = .err x ↔
      (x = .empty ∧ filterEOE msgs = []) ∨
      (x = .noSyscall ∧ (filterEOE msgs).length ≥ 2 ∧ ∀ m ∈ filterEOE msgs, m.typ ≠ SYSCALL) := by
  have hc : coalesce T msgs = .err x ↔ assemble T msgs = .err x := by
    rcases coalesce_cases T msgs with ⟨y, hy, hc⟩ | ⟨_, _, h0, _, hc⟩ | ⟨_, h0, _, hc⟩
    · rw [hc, hy]
    · rw [hc, h0]; exact ⟨nofun, nofun⟩
    · rw [hc, h0]; exact ⟨nofun, nofun⟩
  rw [hc]
  rcases assemble_cases T msgs with ⟨hm, h⟩ | ⟨m, hm, h⟩ | ⟨f, g, r, hm, ⟨hs, h⟩ | ⟨s, hs, h⟩⟩ <;> rw [h, hm]
  · simp [eq_comm]
  · simp
  · refine ⟨fun h => by cases h; exact Or.inr ⟨rfl, by simp, hs⟩, ?_⟩
    rintro (⟨_, h⟩ | ⟨rfl, _⟩)
    · cases h
    · rfl
  · have hst : s.typ = SYSCALL := by simpa using List.find?_some hs
    simp only [reduceCtorEq, false_iff, not_or, not_and]
    exact ⟨nofun, fun _ _ hall => hall s (List.mem_of_find?_eq_some hs) hst⟩

theorem coalesce_panic {T : Tables} {msgs : List View} (h : coalesce T msgs = .panic) :
    ∃ paths ni, paths ≠ [] ∧ selectPath paths (normAt T ni).objectPathIndex = none := by
  rcases coalesce_cases T msgs with ⟨_, _, hc⟩ | ⟨_, _, _, _, hc⟩ | ⟨e0, _, hn, _⟩
  · cases hc.symm.trans h
  · cases hc.symm.trans h
  · rcases applyNorm_cases T e0 with ⟨_, h'⟩ | ⟨ni, _, ⟨_, _, h'⟩ | ⟨hso, _⟩⟩
    · cases h'.symm.trans hn
    · cases h'.symm.trans hn
    · rcases setObject_cases (normAt T ni) _ with h' | h' | ⟨_, hp, ⟨_, _, h'⟩ | ⟨hsel, _⟩⟩
      · cases h'.symm.trans hso
      · cases h'.symm.trans hso
      · cases h'.symm.trans hso
      · exact ⟨_, ni, hp, hsel⟩

theorem selectPath_ne_none (paths : List KV) (hint : Int) (hp : paths ≠ []) (hh : 0 ≤ hint) :
    selectPath paths hint ≠ none := by
  have hlen : 0 < paths.length := List.length_pos_iff.mpr hp
  unfold selectPath
  dsimp only
  generalize hidx : (if (paths.length : Int) > hint then hint else 0) = idx
  have hi : ¬ idx < 0 ∧ idx.toNat < paths.length := by split at hidx <;> omega
  rw [if_neg hi.1, List.getElem?_eq_getElem hi.2]
  nofun

theorem normAt_nonneg (T : Tables) (hT : ∀ n ∈ T.norms, 0 ≤ n.objectPathIndex) (i : Nat) :
    0 ≤ (normAt T i).objectPathIndex :=
  getD_of_forall_mem (P := fun n : Norm => 0 ≤ n.objectPathIndex) hT (by decide) i

end LA.Coalesce
